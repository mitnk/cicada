import Cicada.Model.HistPrompt
import Cicada.Lemmas.Lit
import Cicada.Thm.C18
/-!
# C18, the prompt: which typed lines are recorded

For every session of lines free of `!!`, each starting with a blank or free of surrounding white space (`lineOk`: stored
text = typed text; the other lines are the open finding KF-C18-trim), the rows the prompt loop stores are what the
statement prescribes (`specRecorded`): every submitted line once, verbatim, in order, except lines starting with a space
and immediate repeats of the line recorded last; blank lines are not submissions.  A line that starts with a blank
changes neither the table nor "the previous line", so it can never make a later repeat look new.
-/
namespace Cicada.Hist
open Cicada

/-- the theorem's domain, per typed line -/
def lineOk (l : Str) : Bool := !hasInfix ['!', '!'] l && (l.head? == some ' ' || trim l == l)

/-- `previous = ""` stands for "nothing recorded yet" (a recorded line is never empty) -/
def prevOpt (s : PSt) : Option Str := if s.previous = [] then none else some s.previous

theorem C18_prompt_space_never_recorded (dir : Str) (s : PSt) (typed : Str) (h : typed.head? = some ' ') :
    promptStep dir s typed = s := by
  unfold promptStep
  by_cases hb : trim typed = []
  · simp [hb]
  · simp [hb, shouldRecord, h]

theorem promptStep_blank (dir : Str) (s : PSt) (typed : Str) (h : trim typed = []) : promptStep dir s typed = s := by
  simp [promptStep, h]

theorem extendBangbang_noBang (prev l : Str) (h : hasInfix ['!', '!'] l = false) : extendBangbang prev l = l := by
  simp [extendBangbang, h]

theorem promptStep_repeat (dir : Str) (s : PSt) (typed : Str) (hb : hasInfix ['!', '!'] typed = false)
    (h : typed = s.previous) : promptStep dir s typed = s := by
  unfold promptStep
  by_cases hbl : trim typed = []
  · simp [hbl]
  · rw [extendBangbang_noBang _ _ hb]
    simp [hbl, shouldRecord, h]

theorem promptStep_new (dir : Str) (s : PSt) (typed : Str) (hb : hasInfix ['!', '!'] typed = false)
    (hbl : trim typed ≠ []) (hs : typed.head? ≠ some ' ') (h : typed ≠ s.previous) :
    promptStep dir s typed = { db := add s.db typed dir, previous := typed } := by
  unfold promptStep
  simp [hbl, extendBangbang_noBang _ _ hb, shouldRecord, h, hs]

theorem prevOpt_eq_some (s : PSt) (l : Str) (hne : l ≠ []) : some l = prevOpt s ↔ l = s.previous := by
  unfold prevOpt
  split
  · next h => simp [h, hne]
  · simp

/-- `C18_prompt_rows` from an arbitrary state, as the induction needs it -/
theorem session_from (dir : Str) (lines : List Str) : ∀ (s : PSt), lines.all lineOk = true →
    (lines.foldl (promptStep dir) s).db.rows.map (·.inp) =
      s.db.rows.map (·.inp) ++ dedupFrom (prevOpt s) (lines.filter (fun l => trim l ≠ [] && l.head? ≠ some ' ')) := by
  induction lines with
  | nil => intro s _; simp [dedupFrom]
  | cons l rest ih =>
    intro s hall
    rw [List.all_cons, Bool.and_eq_true] at hall
    obtain ⟨hl, hrest⟩ := hall
    simp only [lineOk, Bool.and_eq_true, Bool.not_eq_true', Bool.or_eq_true, beq_iff_eq] at hl
    obtain ⟨hb, hshape⟩ := hl
    rw [List.foldl_cons, List.filter_cons]
    by_cases hbl : trim l = []
    · rw [promptStep_blank dir s l hbl, ih s hrest]
      simp [hbl]
    · by_cases hsp : l.head? = some ' '
      · rw [C18_prompt_space_never_recorded dir s l hsp, ih s hrest]
        simp [hsp]
      · -- `add` stores `trim l`; on `lineOk` that is `l`
        have htr : trim l = l := hshape.resolve_left hsp
        have hne : l ≠ [] := fun e => hbl (by rw [e]; rfl)
        rw [if_pos (by simp [hbl, hsp]), dedupFrom]
        by_cases heq : l = s.previous
        · rw [promptStep_repeat dir s l hb heq, ih s hrest, if_pos ((prevOpt_eq_some s l hne).mpr heq)]
        · rw [promptStep_new dir s l hb hbl hsp heq, ih _ hrest, if_neg (mt (prevOpt_eq_some s l hne).mp heq),
            rows_add, htr, List.append_assoc, show prevOpt { db := add s.db l dir, previous := l } = some l from if_neg hne]
          rfl

/-- **C18 (prompt): the rows of a session are exactly the prescribed ones** -/
theorem C18_prompt_rows (dir : Str) (lines : List Str) (h : lines.all lineOk = true) :
    (promptSession dir lines).db.rows.map (·.inp) = specRecorded lines := by
  have := session_from dir lines {} h
  simpa [promptSession, specRecorded, prevOpt] using this

def NoAdj : List Str → Prop
  | [] => True
  | [_] => True
  | x :: y :: r => x ≠ y ∧ NoAdj (y :: r)

theorem dedupFrom_noAdj : ∀ (l : List Str) (p : Option Str),
    (match p with
      | some x => NoAdj (x :: dedupFrom p l)
      | none => NoAdj (dedupFrom p l)) := by
  intro l
  induction l with
  | nil => intro p; cases p <;> simp [dedupFrom, NoAdj]
  | cons a r ih =>
    intro p
    cases p with
    | none =>
      have := ih (some a)
      simpa [dedupFrom] using this
    | some x =>
      by_cases h : a = x
      · have := ih (some x)
        simpa [dedupFrom, h] using this
      · have := ih (some a)
        have hx : x ≠ a := fun e => h e.symm
        simp only [dedupFrom, Option.some.injEq, h, ↓reduceIte, NoAdj]
        exact ⟨hx, this⟩

/-- on the domain, neighbouring rows of a session differ -/
theorem C18_prompt_no_adjacent_repeat (dir : Str) (lines : List Str) (h : lines.all lineOk = true) :
    NoAdj ((promptSession dir lines).db.rows.map (·.inp)) := by
  rw [C18_prompt_rows dir lines h]
  exact dedupFrom_noAdj _ none

/-! ### non-vacuity and the shape of the rule -/
example : lineOk "echo 'a;b' | cat".toList = true ∧ lineOk " secret".toList = true := by
  lit_lists
  decide +kernel

/-- X, a hidden line, X again: one row (the hidden line does not reset the repeat filter) -/
example : (promptSession "/".toList ["echo one".toList, " echo hidden".toList, "echo one".toList, "echo two".toList]).db.rows.map (·.inp) =
    ["echo one".toList, "echo two".toList] := by
      lit_lists
      decide +kernel
example : specRecorded ["a".toList, "a".toList, " b".toList, "a".toList, "c".toList, "  ".toList, "a".toList] =
    ["a".toList, "c".toList, "a".toList] := by decide +kernel

end Cicada.Hist
