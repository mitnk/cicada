import Cicada.Lemmas.C06Refine
/-!
# C06 — the refinement `modelView ~ specView` on the exit-only histories and on single-process jobs with stops

The table the shell shows against the abstract world of running / stopped / gone processes, for operation sequences of any
length, by the invariant of `Lemmas/C06Refine.lean`.  First class, the histories that pass the decidable check `wfFrom []`:

* a launch brings a non-empty list of pairwise distinct, never used pids under a never used group id
  (the shell's launches are of this kind: group id = first pid, all pids fresh);
* a child event is `.exited` or `.killed` of a process that is running in the world (so: launched, and at most
  one such event per pid) — no stop, no continue: all three open finding classes need one;
* `.waitFg gid pids` names a launched group and some of its pids (any subset, repeated or not, anywhere in the
  history, the job finished or not, whatever is pending);
* `.poll` anywhere.

Both views have pairwise distinct group ids, so the permutation the theorems state is the equality the stream checks
(`Driver.viewOut` sorts both views by group id); equality of the lists is false even on this class (`C06_view_order_differs`).

Second class (guard `WfSingleStops`), stop and continue events as well, for SINGLE-process jobs that are never waited for in the foreground (the `bg` flag of a launch is free): every launch has
exactly one fresh pid under a fresh group id; a notification of any of the four kinds goes to a process that is not gone and
that has had no notification since the last poll — this excludes KF-C06-parked-sets, whose witness `hStopCont` is a
single-process job; no `.waitFg` — this excludes KF-C06-fg-continue-dropped; KF-C06-status-not-reevaluated needs two members.

A third class, multi-process jobs stopped and continued as a whole, is in `Thm/C06d.lean`.  Outside the guards of this file:
stop / continue events for jobs with several processes, two
notifications for one process between two polls, stop / continue together with `.waitFg`, reuse of a pid or of a
group id, a second launch into an existing group, `.waitFg` with a group id that was never launched or with pids of
another job.
-/
namespace Cicada.C06
open Cicada.Jobs

/-- the decidable well-formedness of an exit-only history (a function of the operation list alone) -/
def WfExitOnly (ops : List Op) : Prop := wfFrom [] ops = true

instance (ops : List Op) : Decidable (WfExitOnly ops) := by unfold WfExitOnly; infer_instance

theorem wfFrom_append : ∀ (a b : List Op) (gw : List WJob),
    wfFrom gw (a ++ b) = (wfFrom gw a && wfFrom (a.foldl gStep gw) b) := by
  intro a
  induction a with
  | nil => intro b gw; simp [wfFrom]
  | cons o os ih => intro b gw; simp [wfFrom, ih, Bool.and_assoc]

/-- the exit-only invariant holds after every well-formed history -/
theorem C06_invariant (ops : List Op) (hwf : WfExitOnly ops) :
    Inv (ops.foldl (fun s o => (step s o).1) {}) (ops.foldl (fun s o => (step s o).1) {}).pending (ops.foldl gStep []) :=
  Inv_run ops {} [] InvM_init hwf

/-- **C06 — refinement on the exit-only histories**: after any well-formed history of launches, exit / kill
notifications, foreground waits and polls (any length, any interleaving), followed by one prompt-time poll, the table
the shell shows is the reference view of the world up to the order of the jobs: exactly the jobs with a live process,
exactly their live pids, all Running -/
theorem C06_refines_exit_only (ops : List Op) (hwf : WfExitOnly ops) :
    (modelView ((ops ++ [Op.poll]).foldl (fun s o => (step s o).1) {})).Perm (specView ((ops ++ [Op.poll]).foldl worldStep [])) := by
  have hwf' : wfFrom [] (ops ++ [Op.poll]) = true := by
    rw [wfFrom_append]; simp [wfFrom, okOp]; exact hwf
  rw [specView_ghost _ (wfFrom_fresh _ _ hwf')]
  simp only [List.foldl_append, List.foldl_cons, List.foldl_nil, step, gStep]
  obtain ⟨h1, h2⟩ := Inv_poll _ _ (C06_invariant ops hwf)
  exact InvM_views spec_entryE _ _ _ h1 h2

/-- the same, for a history that ends with the poll -/
theorem C06_refines_exit_only_ending_in_poll (ops : List Op) (hwf : WfExitOnly (ops ++ [Op.poll])) :
    (modelView ((ops ++ [Op.poll]).foldl (fun s o => (step s o).1) {})).Perm (specView ((ops ++ [Op.poll]).foldl worldStep [])) := by
  apply C06_refines_exit_only
  unfold WfExitOnly at hwf ⊢
  rw [wfFrom_append] at hwf
  simp only [Bool.and_eq_true] at hwf
  exact hwf.1

/-- both views list every group id once: the permutation above is an equality of finite maps gid ↦ (pids, status) -/
theorem C06_views_gids_nodup (ops : List Op) (hwf : WfExitOnly ops) :
    ((modelView (ops.foldl (fun s o => (step s o).1) {})).map (·.1)).Nodup ∧
    ((specView (ops.foldl worldStep [])).map (·.1)).Nodup := by
  have h := C06_invariant ops hwf
  constructor
  · have : (modelView (ops.foldl (fun s o => (step s o).1) {})).map (·.1) =
        (ops.foldl (fun s o => (step s o).1) {}).jobs.map (·.gid) := by
      simp [modelView, List.map_map, Function.comp_def]
    rw [this]; exact h.gids
  · rw [specView_ghost _ (wfFrom_fresh _ _ hwf)]
    exact specView_gids_nodup _ h.world.gids

/-- **on the exit-only histories one poll reaches quiescence**: after a poll no exit is pending or parked -/
theorem C06_poll_quiescent (ops : List Op) (hwf : WfExitOnly ops) :
    let s := (ops ++ [Op.poll]).foldl (fun s o => (step s o).1) {}
    s.pending = [] ∧ s.reap = [] ∧ s.kill = [] := by
  simp only [List.foldl_append, List.foldl_cons, List.foldl_nil, step]
  obtain ⟨_, h2⟩ := Inv_poll _ _ (C06_invariant ops hwf)
  simp only [keys1, List.append_eq_nil_iff, List.map_eq_nil_iff] at h2
  exact ⟨h2.1.1.1.1, h2.1.1.1.2, h2.1.1.2⟩

/-- the reference view with the exits in flight `D` not yet applied -/
def inFlightView (D : List Pid) (gw : List WJob) : List (Pid × List Pid × Bool) :=
  (gw.filter (fun wj => kept D wj ≠ [])).map fun wj => (wj.gid, kept D wj, false)

/-- **at any point** of a well-formed history the table is the set of the jobs with a process that is not gone or
whose exit is in flight, with exactly these pids, all Running (`gStep` is the reference world that keeps the
finished jobs: the reference `worldStep` forgets them at the next launch, the table may not have yet) -/
theorem C06_tracks_in_flight (ops : List Op) (hwf : WfExitOnly ops) :
    let s := ops.foldl (fun s o => (step s o).1) {}
    (modelView s).Perm (inFlightView (infl s s.pending) (ops.foldl gStep [])) := by
  intro s
  have htr := Inv_tr (C06_invariant ops hwf)
  refine view_perm s.jobs _ (fun wj => decide (kept (infl s s.pending) wj ≠ [])) (fun wj => (kept (infl s s.pending) wj, false))
    htr.gids (C06_invariant ops hwf).world.gids ?_ ?_
  · intro j hj
    obtain ⟨h1, h2, wj, h3, h4, h5⟩ := htr.sound j hj
    exact ⟨wj, h3, h4, by rw [← h5]; simpa using h2, by rw [← h5, h1]; rfl⟩
  · intro wj hwj hl
    exact htr.complete wj hwj (by simpa using hl)

/-! ### non-vacuity -/

/-- three concurrent jobs and a fourth taking a freed id, eight processes, exits and kills interleaved with a
foreground wait (which parks the exit of another job's member) and two polls -/
def hExitOnly : List Op :=
  [.launch true 10 [10, 11, 12], .launch false 20 [20, 21], .ev (.exited 11 0), .ev (.killed 21 9),
   .launch true 30 [30], .ev (.exited 20 0), .waitFg 20 [20, 21], .poll, .ev (.exited 10 3),
   .launch true 40 [41, 40], .ev (.exited 30 0)]

example : WfExitOnly hExitOnly := by decide +kernel

/-- before the final poll two exits are in flight and the table still shows their pids … -/
example : modelView (hExitOnly.foldl (fun s o => (step s o).1) {}) =
    [(10, [10, 12], false), (40, [41, 40], false), (30, [30], false)] := by decide +kernel

/-- … after it the views agree (here even as lists) -/
example : modelView ((hExitOnly ++ [Op.poll]).foldl (fun s o => (step s o).1) {}) = [(10, [12], false), (40, [41, 40], false)] ∧
    specView ((hExitOnly ++ [Op.poll]).foldl worldStep []) = [(10, [12], false), (40, [41, 40], false)] := by decide +kernel

example : (modelView ((hExitOnly ++ [Op.poll]).foldl (fun s o => (step s o).1) {})).Perm
    (specView ((hExitOnly ++ [Op.poll]).foldl worldStep [])) := C06_refines_exit_only hExitOnly (by decide +kernel)

/-- a freed id is taken again: the table (by id) and the reference view (by launch) list the same jobs in a different order -/
def hOrder : List Op := [.launch true 10 [10], .launch true 20 [20], .ev (.exited 10 0), .poll, .launch true 30 [30], .poll]

theorem C06_view_order_differs : WfExitOnly hOrder ∧
    modelView (hOrder.foldl (fun s o => (step s o).1) {}) = [(30, [30], false), (20, [20], false)] ∧
    specView (hOrder.foldl worldStep []) = [(20, [20], false), (30, [30], false)] := by decide +kernel

/-! ### stop / continue events, single-process jobs -/

def WfSingleStops (ops : List Op) : Prop := wfFrom1 [] [] ops = true

instance (ops : List Op) : Decidable (WfSingleStops ops) := by unfold WfSingleStops; infer_instance

theorem wfFrom1_append : ∀ (a b : List Op) (gw : List WJob) (d : List Pid),
    wfFrom1 gw d (a ++ b) = (wfFrom1 gw d a && wfFrom1 (a.foldl gStep gw) (a.foldl dirtyStep d) b) := by
  intro a
  induction a with
  | nil => intro b gw d; simp [wfFrom1]
  | cons o os ih => intro b gw d; simp [wfFrom1, ih, Bool.and_assoc]

/-- **C06 — refinement with stop and continue events, single-process jobs without foreground wait**: after any history of launches of
one-process jobs, exit / kill / stop / continue notifications (at most one per process between two polls) and polls,
followed by one poll, the table is the reference view up to the order of the jobs: exactly the jobs whose process is not
gone, Stopped exactly when the process is stopped -/
theorem C06_refines_single_process_stops (ops : List Op) (hwf : WfSingleStops ops) :
    (modelView ((ops ++ [Op.poll]).foldl (fun s o => (step s o).1) {})).Perm (specView ((ops ++ [Op.poll]).foldl worldStep [])) := by
  have hwf' : wfFrom1 [] [] (ops ++ [Op.poll]) = true := by
    rw [wfFrom1_append]; simp [wfFrom1, okOp1]; exact hwf
  rw [specView_ghost _ (wfFrom1_fresh _ _ _ hwf')]
  simp only [List.foldl_append, List.foldl_cons, List.foldl_nil, step, gStep]
  have hinv := Inv1_run ops {} [] [] InvM_init (fun p hp => nomatch hp) hwf
  obtain ⟨h1, h2⟩ := Inv1_poll _ _ hinv
  exact InvM_views spec_entry1 _ _ _ h1 h2

/-- three one-process jobs: stopped, continued, stopped again, killed while stopped, a freed id taken again -/
def hStops : List Op :=
  [.launch true 10 [10], .launch true 20 [20], .ev (.stopped 10 19), .ev (.stopped 20 20), .poll,
   .ev (.continued 10), .launch true 30 [30], .ev (.killed 20 9), .poll, .ev (.stopped 10 19), .ev (.exited 30 0),
   .launch true 40 [41], .poll, .ev (.stopped 41 19)]

example : WfSingleStops hStops := by decide +kernel

example : modelView ((hStops ++ [Op.poll]).foldl (fun s o => (step s o).1) {}) = [(10, [10], true), (40, [41], true)] ∧
    specView ((hStops ++ [Op.poll]).foldl worldStep []) = [(10, [10], true), (40, [41], true)] := by decide +kernel

example : (modelView ((hStops ++ [Op.poll]).foldl (fun s o => (step s o).1) {})).Perm
    (specView ((hStops ++ [Op.poll]).foldl worldStep [])) := C06_refines_single_process_stops hStops (by decide +kernel)

/-- the guard refuses the witness of KF-C06-parked-sets (a single-process job) -/
example : ¬ WfSingleStops [.launch true 50 [50], .ev (.stopped 50 19), .ev (.continued 50)] := by decide +kernel

end Cicada.C06
