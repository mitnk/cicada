import Cicada.Thm.C07probe
import Cicada.Lemmas.TermReport
/-!
# C07: the driver's numbering invariant

`Numbered s`: the children forked so far carry the pids `pidBase + 1, pidBase + 2, …` in creation order.  Every step of
`Term.step` other than a fork leaves the list of pids unchanged, so a run appends the pids it forks (`run_pids`), and a
launch forks the next numbers, one per stage; hence `runMacro` keeps the invariant for every session action, and the guard
`hnum` of `C07probe.C07_substitution_owns_numbered` holds in every state a replay reaches.  Two replays are covered: `replay`
(below: one fixed delivery order, any command texts) and the driver's `DriveC07.replayModel`, which tries several delivery
orders per action; `macroAll_ok` reduces an answer of the latter to one of `runMacro`.
-/
namespace Cicada.C07numbered
open Cicada.Jobs Cicada.Term Cicada.DriveC07 Cicada.C07probe

/-- the same list as `Term.pidsOf s` -/
def pids (s : State) : List Pid := s.procs.map (·.pid)

def Numbered (s : State) : Prop :=
  pids s = (List.range s.procs.length).map (fun i => pidBase + i + 1)

/-- the form in which `C07_substitution_owns_numbered` takes the invariant -/
theorem Numbered.hnum {s : State} (h : Numbered s) : ∀ p ∈ s.procs, p.pid ≤ pidBase + s.procs.length := by
  intro p hp
  have : p.pid ∈ pids s := List.mem_map_of_mem hp
  rw [h] at this
  simp only [List.mem_map, List.mem_range] at this
  obtain ⟨i, hi, e⟩ := this
  have e' : pidBase + i + 1 = p.pid := e
  show p.pid ≤ pidBase + s.procs.length
  rw [← e', Nat.add_assoc]
  exact Nat.add_le_add_left hi pidBase

theorem pids_length (s : State) : (pids s).length = s.procs.length := by simp [pids]

/-- a fork is the only step that changes the list of pids (no step changes a `pid` field, only a fork changes the length) -/
theorem step_pids {c : Cfg} {s s' : State} {a : Act} (h : Term.step c s a = some s')
    (hnf : ∀ pid, a ≠ .fork pid) : pids s' = pids s := by
  cases step_sound h with
  | fork => exact absurd rfl (hnf _)
  | launch | fgMsg | fgNoTty | bgMsg | jobsNone | empty | giveOk | giveFail | giveSkip | insert | launchedBg | launchedNone
  | launchedWait | waitEchild | handbackLaunch | handbackFg => rfl
  | fgDone | fgWait | bgRunning | bgResumed | ctrlC | ctrlZ => exact sigGroup_pids _ _ _
  | jobsList | poll => exact pollR_pids _ s
  | pset | csetpgid => exact updProc_pids _ _ _ (fun q => by split <;> rfl)
  | exit | waitGet => exact updProc_pids _ _ _ (fun _ => rfl)
  | signal => exact updProc_pids _ _ _ (fun q => ((sigProc_benign _).1 q).1)

theorem procs_length_of_pids {s s' : State} (h : pids s' = pids s) : s'.procs.length = s.procs.length := by
  rw [← pids_length, ← pids_length, h]

theorem Numbered.of_pids {s s' : State} (hn : Numbered s) (h : pids s' = pids s) : Numbered s' := by
  unfold Numbered
  rw [procs_length_of_pids h, h]
  exact hn

theorem stepFork_procs {c : Cfg} {s s' : State} {l : Launch} {pid : Pid} (h : stepFork c s l pid = some s') :
    pids s' = pids s ++ [pid] := by
  unfold stepFork at h
  split at h
  · split at h
    · cases h
    · cases h; exact List.map_append
  · cases h

theorem Numbered.append {s s' : State} (hn : Numbered s) (k : Nat)
    (h : pids s' = pids s ++ (List.range k).map (fun i => pidBase + s.procs.length + i + 1)) : Numbered s' := by
  have hl : s'.procs.length = s.procs.length + k := by
    rw [← pids_length, h, List.length_append, pids_length, List.length_map, List.length_range]
  unfold Numbered at hn ⊢
  rw [hl, h, hn, List.range_add, List.map_append, List.map_map]
  simp [Function.comp_def, Nat.add_assoc]

theorem stepFork_numbered {c : Cfg} {s s' : State} {l : Launch}
    (h : stepFork c s l (pidBase + s.procs.length + 1) = some s') (hn : Numbered s) : Numbered s' :=
  hn.append 1 (stepFork_procs h)

theorem numbered_init (sh : Pid) : Numbered (init sh) := by
  simp [Numbered, pids, init]

/-- the pids a list of actions forks, in order; a run appends exactly these (`run_pids`) -/
def forkPids (as : List Act) : List Pid :=
  as.flatMap fun
    | .fork pid => [pid]
    | _ => []

theorem forkPids_cons_ne {a : Act} (as : List Act) (h : ∀ pid, a ≠ .fork pid) : forkPids (a :: as) = forkPids as := by
  cases a with
  | fork pid => exact absurd rfl (h pid)
  | _ => rfl

theorem run_pids {c : Cfg} (as : List Act) : ∀ {s s' : State}, run c s as = some s' → pids s' = pids s ++ forkPids as := by
  induction as with
  | nil => intro s s' h; cases h; exact (List.append_nil _).symm
  | cons a as ih =>
    intro s s' h
    simp only [run] at h
    split at h
    · rename_i s1 hs1
      rw [ih h]
      by_cases hf : ∃ pid, a = .fork pid
      · obtain ⟨pid, rfl⟩ := hf
        simp only [Term.step] at hs1
        split at hs1
        · rw [stepFork_procs hs1, List.append_assoc]; rfl
        · cases hs1
      · have hnf : ∀ pid, a ≠ .fork pid := fun pid e => hf ⟨pid, e⟩
        rw [step_pids hs1 hnf, forkPids_cons_ne as hnf]
    · cases h

theorem forkPids_append (as bs : List Act) : forkPids (as ++ bs) = forkPids as ++ forkPids bs := List.flatMap_append

theorem forkPids_ite (p : Prop) [Decidable p] (a : Act) (h : forkPids [a] = []) : forkPids (if p then [a] else []) = [] := by
  split
  · exact h
  · rfl

theorem forkPids_stageActs (c : Cfg) (k : Nat) (pid : Pid) (kind : Kind) : forkPids (stageActs c k pid kind) = [pid] := by
  unfold stageActs
  rw [forkPids_append, forkPids_append, forkPids_append, forkPids_append, forkPids_ite _ .psetpgid rfl,
    forkPids_ite _ .give rfl]
  cases kind <;> rfl

/-- a launch forks the next numbers, one per stage -/
theorem forkPids_launchActs (c : Cfg) (cmdOf : Nat → Kind → String) (n0 : Nat) (bg : Bool) (kinds : List Kind) :
    forkPids (launchActs c cmdOf n0 bg kinds) = (List.range kinds.length).map (fun k => pidBase + n0 + k + 1) := by
  have h : ∀ x : Nat × Kind, forkPids (stageActs c x.1 (pidBase + n0 + x.1 + 1) x.2) = [pidBase + n0 + x.1 + 1] :=
    fun x => forkPids_stageActs c _ _ _
  simp only [launchActs, forkPids] at h ⊢
  simp [List.flatMap_append, List.flatMap_assoc, h]
  rw [← List.map_eq_flatMap]
  exact (List.map_map (g := fun k => pidBase + n0 + k + 1) (f := Prod.fst)).symm.trans (congrArg _ (List.map_fst_zip (Nat.le_of_eq List.length_range)))

theorem settle_pids (c : Cfg) (pref : List Pid) : ∀ (f : Nat) {s s' : State}, settle c pref f s = some s' →
    pids s' = pids s := by
  intro f
  induction f with
  | zero => intro s s' h; simp only [settle] at h; injection h with h; subst h; rfl
  | succ f ih =>
    intro s s' h
    have key : ∀ a, (∀ pid, a ≠ Act.fork pid) → (Term.step c s a).bind (settle c pref f) = some s' → pids s' = pids s := by
      intro a hnf hb
      cases hs : Term.step c s a with
      | none => rw [hs] at hb; cases hb
      | some s1 =>
        rw [hs] at hb
        exact (ih hb).trans (step_pids hs hnf)
    simp only [settle] at h
    split at h
    · split at h
      · exact key _ (by intro pid e; cases e) h
      · split at h
        · exact key _ (by intro pid e; cases e) h
        · injection h with h; subst h; rfl
    · exact key _ (by intro pid e; cases e) h
    · exact key _ (by intro pid e; cases e) h
    · injection h with h; subst h; rfl

theorem extSignal_pids {c : Cfg} {s s' : State} {i : Nat} {sg : Sig} (h : extSignal c s i sg = some s') :
    pids s' = pids s := by
  unfold extSignal at h
  split at h
  · rename_i s1 hs1
    injection h with h; subst h
    exact step_pids hs1 (by intro pid e; cases e)
  · injection h with h; subst h; rfl

theorem runMacro_numbered {c : Cfg} {cmdOf : Nat → Kind → String} {pref : List Pid} {s s' : State} {a : SAct}
    (h : runMacro c cmdOf pref s a = some s') (hn : Numbered s) : Numbered s' := by
  have fin : ∀ {o : Option State}, o.bind (fun s1 => settle c pref (settleFuel s1) s1) = some s' →
      (∀ s1, o = some s1 → Numbered s1) → Numbered s' := by
    intro o hb ho
    cases o with
    | none => cases hb
    | some s1 => exact (ho s1 rfl).of_pids (settle_pids c pref _ hb)
  have viaStep : ∀ {act : Act}, (∀ pid, act ≠ Act.fork pid) → ∀ s1, Term.step c s act = some s1 → Numbered s1 :=
    fun hnf s1 hs => hn.of_pids (step_pids hs hnf)
  unfold runMacro at h
  cases a with
  | launch bg kinds => exact fin h fun s1 hs => hn.append _ (by rw [run_pids _ hs, forkPids_launchActs])
  | kill i | stop i | cont i => exact fin h fun s1 hs => hn.of_pids (extSignal_pids hs)
  | fg n | bg n => cases n <;> exact fin h (viaStep (by intro pid e; cases e))
  | ctrlZ | ctrlC | jobs | empty => exact fin h (viaStep (by intro pid e; cases e))

/-- a session through `runMacro`, with one delivery order `pref` for every action -/
def replay (c : Cfg) (cmdOf : Nat → Kind → String) (pref : List Pid) : State → List SAct → Option State
  | s, [] => some s
  | s, a :: as => (runMacro c cmdOf pref s a).bind (fun s1 => replay c cmdOf pref s1 as)

theorem replay_numbered {c : Cfg} {cmdOf : Nat → Kind → String} {pref : List Pid} (as : List SAct) :
    ∀ {s s' : State}, replay c cmdOf pref s as = some s' → Numbered s → Numbered s' := by
  induction as with
  | nil => intro s s' h hn; simp only [replay] at h; injection h with h; subst h; exact hn
  | cons a as ih =>
    intro s s' h hn
    simp only [replay] at h
    cases hs : runMacro c cmdOf pref s a with
    | none => rw [hs] at h; cases h
    | some s1 => rw [hs] at h; exact ih h (runMacro_numbered hs hn)

/-- the probe's answer in every prompt state a session reaches (the guard `hnum` discharged by the invariant) -/
theorem C07_substitution_owns_reached (c : Cfg) (cmdOf : Nat → Kind → String) (pref : List Pid) (as : List SAct)
    (s : State) (hi : c.interactive = true) (hr : replay c cmdOf pref (init shellPid) as = some s)
    (hm : s.mode = .prompt) (hsh : s.shell ≠ pidBase + s.procs.length + 1) : probeOwns c s = (true, true) :=
  C07_substitution_owns_numbered c s hi hm (replay_numbered as hr (numbered_init shellPid)).hnum hsh

/-- an answer of `macroAll` is the answer of `runMacro` for one of the delivery orders it tried -/
theorem macroAll_ok {c : Cfg} {s s' : State} {a : SAct} (h : macroAll c s a = .ok s') :
    ∃ pref, runMacro c stageCmd pref s a = some s' := by
  have one : (match runMacro c stageCmd [] s a with | some s' => MacroRes.ok s' | none => MacroRes.stuck) = .ok s' →
      ∃ pref, runMacro c stageCmd pref s a = some s' := by
    intro h
    split at h
    · rename_i s1 hs1; cases h; exact ⟨[], hs1⟩
    · cases h
  have all : ∀ prefs : List (List Pid),
      (match prefs.map (fun pref => runMacro c stageCmd pref s a) with
       | some s1 :: rest =>
         if rest.all (fun r => match r with | some s2 => stateKey s2 = stateKey s1 | none => false) then MacroRes.ok s1
         else MacroRes.orderSensitive
       | _ => MacroRes.stuck) = .ok s' → ∃ pref, runMacro c stageCmd pref s a = some s' := by
    intro prefs h
    split at h
    · rename_i s1 rest hrs
      split at h
      · cases h
        obtain ⟨pref, _, hp⟩ := List.mem_map.mp (hrs ▸ List.mem_cons_self)
        exact ⟨pref, hp⟩
      · cases h
    · cases h
  unfold macroAll at h
  dsimp only at h
  -- first on whether the shell is waiting, then on whether the delivery order matters
  split at h <;> split at h
  · exact one h
  · exact all _ h
  · exact one h
  · exact all _ h

theorem macroAll_numbered {c : Cfg} {s s' : State} {a : SAct} (h : macroAll c s a = .ok s') (hn : Numbered s) :
    Numbered s' := by
  obtain ⟨pref, hp⟩ := macroAll_ok h
  exact runMacro_numbered hp hn

theorem replayModel_numbered (c : Cfg) (acts : List SAct) (probes : List Bool) :
    Numbered (replayModel c acts probes).st := by
  unfold replayModel
  refine foldl_pres (fun r : Replay => Numbered r.st) _ ?_ acts {} (numbered_init shellPid)
  intro r a hr
  dsimp only
  split
  · exact hr
  · split
    · rename_i s1 hs1
      exact macroAll_numbered hs1 hr
    · exact hr
    · exact hr

/-- the probe's answer in every prompt state of the driver's replay: the guard `hnum` is discharged by the invariant -/
theorem C07_substitution_owns_replayModel (c : Cfg) (acts : List SAct) (probes : List Bool)
    (hi : c.interactive = true) (hm : (replayModel c acts probes).st.mode = .prompt)
    (hsh : (replayModel c acts probes).st.shell ≠ pidBase + (replayModel c acts probes).st.procs.length + 1) :
    probeOwns c (replayModel c acts probes).st = (true, true) :=
  C07_substitution_owns_numbered c _ hi hm (replayModel_numbered c acts probes).hnum hsh

/- The hypotheses `hm` and `hsh` of the two `C07_substitution_owns_*` theorems can be met (third and last example); the
list of pids after a launch, after a step that is not a fork, after a fork (second, fourth, fifth). -/

example : Numbered (init shellPid) := numbered_init shellPid

example : ∃ s, runMacro {} stageCmd [] (init shellPid) (.launch true [.sleep, .sleep]) = some s ∧
    pids s = [pidBase + 1, pidBase + 2] ∧ s.mode = .prompt := by
  refine ⟨_, rfl, ?_, ?_⟩ <;> decide +kernel

example : ∃ s, replay {} stageCmd [] (init shellPid) [.launch true [.sleep], .launch false [.exit 0], .jobs] = some s ∧
    s.mode = .prompt ∧ s.shell ≠ pidBase + s.procs.length + 1 ∧ s.procs.length = 2 := by
  refine ⟨_, rfl, ?_, ?_, ?_⟩ <;> decide +kernel

example : ∃ s s', runMacro {} stageCmd [] (init shellPid) (.launch true [.sleep, .sleep]) = some s ∧
    Term.step {} s (.signal (pidBase + 1) .stop) = some s' ∧ pids s' = [pidBase + 1, pidBase + 2] := by
  refine ⟨_, _, rfl, rfl, ?_⟩; decide +kernel

example : ∃ s', stepFork {} { init shellPid with mode := .launching { bg := false, cmds := ["x"] } }
    { bg := false, cmds := ["x"] } (pidBase + 0 + 1) = some s' ∧ pids s' = [pidBase + 1] := by
  refine ⟨_, rfl, ?_⟩; decide +kernel

example : (replayModel {} [.launch true [.sleep], .launch false [.exit 0]] []).st.mode = .prompt ∧
    (replayModel {} [.launch true [.sleep], .launch false [.exit 0]] []).st.procs.length = 2 := by
  constructor <;> decide +kernel

end Cicada.C07numbered

section
open Cicada.C07numbered
#print axioms Numbered.hnum
#print axioms step_pids
#print axioms stepFork_numbered
#print axioms runMacro_numbered
#print axioms numbered_init
#print axioms replay_numbered
#print axioms C07_substitution_owns_reached
#print axioms macroAll_numbered
#print axioms replayModel_numbered
#print axioms C07_substitution_owns_replayModel
end
