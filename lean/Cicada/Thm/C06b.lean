import Cicada.Thm.C06
/-!
# C06 — job ids are unique in every reachable state

Every operation of the model keeps the ids strictly increasing along the table, with no guard at all.  Also here, because the
proof for `wait_fg_job` needs it first: one turn of that loop as a function of the state (`fgStep`) and its induction principle.
-/
namespace Cicada.C06
open Cicada.Jobs

/-- ids strictly increasing along the table (hence pairwise distinct) -/
def IdsOk (s : Sh) : Prop := (s.jobs.map (·.id)).Pairwise (· < ·)

theorem idsOk_of_jobs_eq {s s' : Sh} (h : s'.jobs = s.jobs) (hs : IdsOk s) : IdsOk s' := by
  unfold IdsOk at *; rw [h]; exact hs

theorem map_updJob {β} (g : Job → β) (i : Nat) (f : Job → Job) (hf : ∀ x, g (f x) = g x) (l : List Job) :
    (l.map fun x => if x.id = i then f x else x).map g = l.map g := by
  rw [List.map_map]
  apply List.map_congr_left
  intro x _
  simp only [Function.comp]
  split
  · exact hf x
  · rfl

theorem ite_ind {α} (P : α → Prop) (c : Prop) [Decidable c] (a b : α) (ha : P a) (hb : P b) : P (if c then a else b) := by
  split <;> assumption

theorem idsOk_updJob (s : Sh) (i : Nat) (f : Job → Job) (hf : ∀ x, (f x).id = x.id) (hs : IdsOk s) : IdsOk (updJob s i f) := by
  unfold IdsOk updJob at *
  simp only
  rw [map_updJob (·.id) _ _ hf]; exact hs

theorem idsOk_filter (s : Sh) (p : Job → Bool) (hs : IdsOk s) : IdsOk { s with jobs := s.jobs.filter p } := by
  unfold IdsOk at *
  simp only
  exact hs.sublist (List.Sublist.map _ List.filter_sublist)

theorem insertSorted_perm (j : Job) (l : List Job) : (insertSorted j l).Perm (j :: l) := by
  induction l with
  | nil => exact List.Perm.refl _
  | cons x xs ih =>
    unfold insertSorted
    split
    · exact List.Perm.refl _
    · exact (List.Perm.cons x ih).trans (List.Perm.swap j x xs)

theorem mem_insertSorted (j : Job) (l : List Job) (y : Job) : y ∈ insertSorted j l ↔ y = j ∨ y ∈ l :=
  (insertSorted_perm j l).mem_iff.trans List.mem_cons

theorem insertSorted_ids (j : Job) : ∀ (l : List Job), (l.map (·.id)).Pairwise (· < ·) → (∀ x ∈ l, x.id ≠ j.id) →
    ((insertSorted j l).map (·.id)).Pairwise (· < ·) := by
  intro l
  induction l with
  | nil => intro _ _; simp [insertSorted]
  | cons x xs ih =>
    intro hp hne
    simp only [List.map_cons, List.pairwise_cons] at hp
    have hx : x.id ≠ j.id := hne x List.mem_cons_self
    unfold insertSorted
    split
    · rename_i hlt
      simp only [List.map_cons, List.pairwise_cons]
      refine ⟨?_, hp⟩
      intro a ha
      simp only [List.mem_cons, List.mem_map] at ha
      rcases ha with rfl | ⟨y, hy, rfl⟩
      · exact hlt
      · have := hp.1 y.id (List.mem_map.mpr ⟨y, hy, rfl⟩); omega
    · rename_i hge
      simp only [List.map_cons, List.pairwise_cons]
      refine ⟨?_, ih hp.2 (fun y hy => hne y (List.mem_cons_of_mem _ hy))⟩
      intro a ha
      obtain ⟨y, hy, rfl⟩ := List.mem_map.mp ha
      rcases (mem_insertSorted j xs y).mp hy with rfl | hy'
      · omega
      · exact hp.1 y.id (List.mem_map.mpr ⟨y, hy', rfl⟩)

theorem idsOk_insertJobGo (s : Sh) (gid pid : Pid) (bg : Bool) (hs : IdsOk s) : ∀ (f i : Nat), IdsOk (insertJobGo s gid pid bg f i) := by
  intro f
  induction f with
  | zero => intro i; exact hs
  | succ f ih =>
    intro i
    simp only [insertJobGo]
    cases hfind : s.jobs.find? (·.id = i) with
    | none =>
      simp only
      unfold IdsOk
      refine insertSorted_ids _ s.jobs hs ?_
      intro x hx e
      have := List.find?_eq_none.mp hfind x hx
      simp at this; exact this e
    | some j =>
      simp only
      split
      · exact idsOk_updJob s i (fun x => { x with pids := x.pids ++ [pid] }) (fun _ => rfl) hs
      · exact ih (i + 1)

theorem idsOk_insertJob (s : Sh) (gid pid : Pid) (bg : Bool) (hs : IdsOk s) : IdsOk (insertJob s gid pid bg) :=
  idsOk_insertJobGo s gid pid bg hs _ _

theorem idsOk_removePid (s : Sh) (gid pid : Pid) (hs : IdsOk s) : IdsOk (removePid s gid pid) := by
  unfold removePid
  split
  · exact hs
  · simp only
    split
    · exact idsOk_filter s _ hs
    · exact idsOk_updJob s _ _ (fun _ => rfl) hs

theorem idsOk_markMemberStopped (s : Sh) (pid gid : Pid) (hs : IdsOk s) : IdsOk (markMemberStopped s pid gid) := by
  unfold markMemberStopped
  split
  · exact hs
  · simp only
    apply ite_ind IdsOk
    · exact idsOk_updJob _ _ _ (fun _ => rfl) (idsOk_updJob s _ _ (fun _ => rfl) hs)
    · exact idsOk_updJob s _ _ (fun _ => rfl) hs

theorem idsOk_markMemberContinued (s : Sh) (pid gid : Pid) (hs : IdsOk s) : IdsOk (markMemberContinued s pid gid) := by
  unfold markMemberContinued
  split
  · exact hs
  · simp only
    apply ite_ind IdsOk
    · exact idsOk_updJob _ _ _ (fun _ => rfl) (idsOk_updJob s _ _ (fun _ => rfl) hs)
    · exact idsOk_updJob s _ _ (fun _ => rfl) hs

def fgStep (gid : Pid) (pids : List Pid) (s : Sh) : Ev → Sh
  | .exited p c => if pids.contains p then removePid s gid p else { s with reap := putMap s.reap p c }
  | .killed p g => if pids.contains p then removePid s gid p else { s with kill := putMap s.kill p g }
  | .stopped p _ => if pids.contains p then markMemberStopped s p gid else markMemberStopped { s with stop := addOnce s.stop p } p 0
  | .continued p => if pids.contains p then s else { s with cont := addOnce s.cont p }

theorem waitFgGo_cons (gid : Pid) (pids : List Pid) (e : Ev) (rest : List Ev) (s : Sh) (w : Nat) (st : Int) :
    (∃ w' st', waitFgGo gid pids (e :: rest) s w st = waitFgGo gid pids rest (fgStep gid pids s e) w' st') ∨
      ∃ st', waitFgGo gid pids (e :: rest) s w st = ({ fgStep gid pids s e with pending := rest }, st') := by
  cases e with
  | continued p => exact Or.inl ⟨w, st, rfl⟩
  | exited p c =>
    by_cases hc : (if pids.contains p then w + 1 else w) ≥ pids.length
    · exact Or.inr ⟨_, if_pos hc⟩
    · exact Or.inl ⟨_, _, if_neg hc⟩
  | killed p c =>
    by_cases hc : (if pids.contains p then w + 1 else w) ≥ pids.length
    · exact Or.inr ⟨_, if_pos hc⟩
    · exact Or.inl ⟨_, _, if_neg hc⟩
  | stopped p c =>
    by_cases hc : (if pids.contains p then w + 1 else w) ≥ pids.length
    · exact Or.inr ⟨_, if_pos hc⟩
    · exact Or.inl ⟨_, _, if_neg hc⟩

theorem waitFgGo_ind (gid : Pid) (pids : List Pid) (P : List Ev → Sh → Prop)
    (hpend : ∀ evs s l, P evs s → P evs { s with pending := l })
    (hstep : ∀ e rest s, P (e :: rest) s → P rest (fgStep gid pids s e)) :
    ∀ (evs : List Ev) (s : Sh) (w : Nat) (st : Int), P evs s →
      P (waitFgGo gid pids evs s w st).1.pending (waitFgGo gid pids evs s w st).1 := by
  intro evs
  induction evs with
  | nil => intro s w st h; exact hpend _ _ _ h
  | cons e rest ih =>
    intro s w st h
    obtain ⟨w', st', heq⟩ | ⟨st', heq⟩ := waitFgGo_cons gid pids e rest s w st
    · rw [heq]; exact ih _ _ _ (hstep e rest s h)
    · rw [heq]; exact hpend _ _ _ (hstep e rest s h)

theorem idsOk_waitFgGo (gid : Pid) (pids : List Pid) (evs : List Ev) (s : Sh) (w : Nat) (st : Int) (hs : IdsOk s) :
    IdsOk (waitFgGo gid pids evs s w st).1 := by
  refine waitFgGo_ind gid pids (fun _ s => IdsOk s) (fun _ _ _ h => idsOk_of_jobs_eq rfl h) ?_ evs s w st hs
  intro e rest s h
  cases e with
  | exited p c => exact ite_ind IdsOk _ _ _ (idsOk_removePid s _ _ h) (idsOk_of_jobs_eq rfl h)
  | killed p c => exact ite_ind IdsOk _ _ _ (idsOk_removePid s _ _ h) (idsOk_of_jobs_eq rfl h)
  | stopped p c =>
    exact ite_ind IdsOk _ _ _ (idsOk_markMemberStopped s _ _ h) (idsOk_markMemberStopped _ _ _ (idsOk_of_jobs_eq rfl h))
  | continued p => exact ite_ind IdsOk _ _ _ h (idsOk_of_jobs_eq rfl h)

theorem foldl_inv {α β} (P : α → Prop) (f : α → β → α) (hf : ∀ a b, P a → P (f a b)) : ∀ (l : List β) (a : α), P a → P (l.foldl f a) := by
  intro l
  induction l with
  | nil => intro a h; exact h
  | cons x xs ih => intro a h; exact ih _ (hf a x h)

theorem idsOk_park (s : Sh) (hs : IdsOk s) : IdsOk (park s) := by
  unfold park
  apply foldl_inv IdsOk
  · intro a e ha
    cases e <;> exact idsOk_of_jobs_eq rfl ha
  · exact idsOk_of_jobs_eq rfl hs

theorem idsOk_applyParked (s : Sh) (hs : IdsOk s) : IdsOk (applyParked s) := by
  unfold applyParked
  apply foldl_inv IdsOk _ _ _ _ hs
  intro a job ha
  apply foldl_inv IdsOk _ _ _ _ ha
  intro a pid ha
  apply ite_ind IdsOk
  · exact idsOk_removePid _ _ _ (idsOk_of_jobs_eq rfl ha)
  apply ite_ind IdsOk
  · exact idsOk_removePid _ _ _ (idsOk_of_jobs_eq rfl ha)
  apply ite_ind IdsOk
  · exact idsOk_markMemberStopped _ _ _ (idsOk_of_jobs_eq rfl ha)
  apply ite_ind IdsOk
  · exact idsOk_markMemberContinued _ _ _ (idsOk_of_jobs_eq rfl ha)
  · exact ha

theorem idsOk_step (s : Sh) (o : Op) (hs : IdsOk s) : IdsOk (step s o).1 := by
  cases o with
  | launch bg gid pids =>
    simp only [step]
    exact foldl_inv IdsOk _ (fun a p ha => idsOk_insertJob a gid p bg ha) _ _ hs
  | ev e => exact idsOk_of_jobs_eq rfl hs
  | waitFg gid pids =>
    simp only [step, waitFg]
    split
    · exact hs
    · exact idsOk_waitFgGo gid pids _ _ _ _ hs
  | poll =>
    simp only [step, poll]
    split
    · exact hs
    · exact idsOk_applyParked _ (idsOk_park s hs)

/-- **C06 — job ids are unique in every reachable state**: after ANY history of launches, child events (exit, kill, stop,
continue, for any pid, in any order), foreground waits and prompt-time polls the table's ids are strictly increasing along the
table, hence pairwise distinct -/
theorem C06_ids_unique (ops : List Op) : IdsOk (ops.foldl (fun s o => (step s o).1) {}) := by
  apply foldl_inv IdsOk _ (fun a o ha => idsOk_step a o ha)
  exact List.Pairwise.nil

theorem C06_ids_nodup (ops : List Op) : ((ops.foldl (fun s o => (step s o).1) {}).jobs.map (·.id)).Nodup := by
  have h := C06_ids_unique ops
  unfold IdsOk at h
  exact h.imp (fun hlt => Nat.ne_of_lt hlt)

end Cicada.C06
