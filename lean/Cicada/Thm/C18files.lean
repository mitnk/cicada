import Cicada.Thm.C18p
import Cicada.Lemmas.Lit
/-!
# C18, the prompt: a history file renamed in mid-session loses nothing

The prompt loop (src/main.rs:150-174) RUNS the line first and records it AFTERWARDS; `history::add_raw` opens the file
named by `HISTORY_FILE` at that moment (creating the table if the file is new) and appends one row.  So when a
submitted line is `export HISTORY_FILE=…`, that very line is the first row of the second file.

`TSt` / `twoStep` / `twoSession` : the two-table session.  The decision what to record is literally that of `promptStep`
(blank line → nothing, not even run; `extendBangbang`; `shouldRecord typed line previous`); the row goes to `b` if the
session is on the second file after running this line, else to `a`.  `sw : Str → Bool` says whether the line that is
run (the typed line after `!!` expansion) is the switch; `second` is sticky.  A switch line that is not recorded (it
starts with a blank, or repeats the previous line) still switches.
-/
namespace Cicada.Hist
open Cicada

structure TSt where
  a : Db := {}
  b : Db := {}
  second : Bool := false
  previous : Str := []
  deriving Repr

/-- one line typed at the prompt; `sw line` = running `line` renames the history file -/
def twoStep (dir : Str) (sw : Str → Bool) (t : TSt) (typed : Str) : TSt :=
  if trim typed = [] then t else
  let line := extendBangbang t.previous typed
  let second := t.second || sw line            -- the line is run before it is recorded
  if shouldRecord typed line t.previous then
    if second then { a := t.a, b := add t.b line dir, second := true, previous := line }
    else { a := add t.a line dir, b := t.b, second := false, previous := line }
  else { t with second := second }

def twoSession (dir : Str) (sw : Str → Bool) (lines : List Str) : TSt := lines.foldl (twoStep dir sw) {}

def Sim (t : TSt) (s : PSt) : Prop :=
  t.previous = s.previous ∧ t.a.rows.map (·.inp) ++ t.b.rows.map (·.inp) = s.db.rows.map (·.inp) ∧ (t.second = false → t.b.rows = [])

theorem twoStep_sim (dir : Str) (sw : Str → Bool) (t : TSt) (s : PSt) (typed : Str) (h : Sim t s) :
    Sim (twoStep dir sw t typed) (promptStep dir s typed) := by
  obtain ⟨hp, hi, hb⟩ := h
  unfold twoStep promptStep
  by_cases hbl : trim typed = []
  · simp only [hbl, ↓reduceIte]; exact ⟨hp, hi, hb⟩
  · simp only [hbl, ↓reduceIte, hp]
    by_cases hr : shouldRecord typed (extendBangbang s.previous typed) s.previous = true
    · simp only [hr, ↓reduceIte]
      by_cases h2 : (t.second || sw (extendBangbang s.previous typed)) = true
      · simp only [h2, ↓reduceIte]
        refine ⟨rfl, ?_, by simp⟩
        rw [rows_add, rows_add, ← List.append_assoc, hi]
      · simp only [h2, Bool.false_eq_true, ↓reduceIte]
        have hbe := hb (Bool.or_eq_false_iff.mp (Bool.eq_false_iff.mpr h2)).1
        refine ⟨rfl, ?_, fun _ => hbe⟩
        rw [hbe] at hi ⊢
        simp only [List.map_nil, List.append_nil] at hi ⊢
        rw [rows_add, rows_add, hi]
    · simp only [hr, Bool.false_eq_true, ↓reduceIte]
      exact ⟨rfl, hi, fun h2 => hb (Bool.or_eq_false_iff.mp h2).1⟩

theorem twoFold_sim (dir : Str) (sw : Str → Bool) (lines : List Str) : ∀ (t : TSt) (s : PSt), Sim t s →
    Sim (lines.foldl (twoStep dir sw) t) (lines.foldl (promptStep dir) s) := by
  induction lines with
  | nil => intro t s h; exact h
  | cons l rest ih =>
    intro t s h
    simp only [List.foldl_cons]
    exact ih _ _ (twoStep_sim dir sw t s l h)

/-- **C18 (prompt, two files): the rows of the first file followed by the rows of the second are exactly the rows of
the one-table session, and the repeat filter's memory agrees** -/
theorem C18_two_files_refine (dir : Str) (sw : Str → Bool) (lines : List Str) :
    (twoSession dir sw lines).a.rows.map (·.inp) ++ (twoSession dir sw lines).b.rows.map (·.inp) =
      (promptSession dir lines).db.rows.map (·.inp) ∧
    (twoSession dir sw lines).previous = (promptSession dir lines).previous := by
  have h := twoFold_sim dir sw lines {} {} ⟨rfl, rfl, fun _ => rfl⟩
  exact ⟨h.2.1, h.1⟩

/-- while the session is on the first file, the second file has no rows -/
theorem C18_two_files_b_empty_before (dir : Str) (sw : Str → Bool) (lines : List Str)
    (h : (twoSession dir sw lines).second = false) : (twoSession dir sw lines).b.rows = [] :=
  (twoFold_sim dir sw lines {} {} ⟨rfl, rfl, fun _ => rfl⟩).2.2 h

theorem twoStep_frozen (dir : Str) (sw : Str → Bool) (t : TSt) (typed : Str) (h : t.second = true) :
    (twoStep dir sw t typed).second = true ∧ (twoStep dir sw t typed).a = t.a := by
  unfold twoStep
  by_cases hbl : trim typed = []
  · simp [hbl, h]
  · by_cases hr : shouldRecord typed (extendBangbang t.previous typed) t.previous = true
    · simp [hbl, hr, h]
    · simp [hbl, hr, h]

/-- once on the second file the session stays there and the first file is never written again -/
theorem C18_two_files_a_frozen (dir : Str) (sw : Str → Bool) (lines : List Str) : ∀ (t : TSt), t.second = true →
    (lines.foldl (twoStep dir sw) t).second = true ∧ (lines.foldl (twoStep dir sw) t).a = t.a := by
  induction lines with
  | nil => intro t h; exact ⟨h, rfl⟩
  | cons l rest ih =>
    intro t h
    simp only [List.foldl_cons]
    obtain ⟨h1, h2⟩ := twoStep_frozen dir sw t l h
    obtain ⟨h3, h4⟩ := ih _ h1
    exact ⟨h3, h4.trans h2⟩

/-- **C18 (prompt, two files), against the statement**: on the domain of `C18_prompt_rows` the two files together hold
exactly the prescribed lines, in order -/
theorem C18_two_files_rows (dir : Str) (sw : Str → Bool) (lines : List Str) (h : lines.all lineOk = true) :
    (twoSession dir sw lines).a.rows.map (·.inp) ++ (twoSession dir sw lines).b.rows.map (·.inp) = specRecorded lines := by
  rw [(C18_two_files_refine dir sw lines).1, C18_prompt_rows dir lines h]

/-- the switch in the middle of a 6-line session (one immediate repeat): 2 rows in the first file, 3 in the second, the
switch line itself being the first row of the second file -/
example :
    let sw : Str → Bool := fun l => l == "export HISTORY_FILE=/tmp/h2.db".toList
    let ls := ["echo one".toList, "echo two".toList, "export HISTORY_FILE=/tmp/h2.db".toList, "echo three".toList,
               "echo three".toList, "echo four".toList]
    (twoSession "/".toList sw ls).a.rows.map (·.inp) = ["echo one".toList, "echo two".toList] ∧
    (twoSession "/".toList sw ls).b.rows.map (·.inp) =
      ["export HISTORY_FILE=/tmp/h2.db".toList, "echo three".toList, "echo four".toList] ∧
    (twoSession "/".toList sw ls).second = true ∧
    ls.all lineOk = true := by
      lit_lists
      decide +kernel

/-- a switch line typed with a leading blank is run (the session moves to the second file) but not recorded -/
example :
    let sw : Str → Bool := fun l => l == " export HISTORY_FILE=h2".toList
    let ls := ["a".toList, " export HISTORY_FILE=h2".toList, "b".toList]
    (twoSession "/".toList sw ls).a.rows.map (·.inp) = ["a".toList] ∧
    (twoSession "/".toList sw ls).b.rows.map (·.inp) = ["b".toList] := by
      lit_lists
      decide +kernel

/-- row ids restart in the second file (why only the `inp` columns are compared) -/
example :
    let sw : Str → Bool := fun l => l == "sw".toList
    (twoSession "/".toList sw ["a".toList, "sw".toList, "b".toList]).b.rows.map (·.rowid) = [1, 2] ∧
    (promptSession "/".toList ["a".toList, "sw".toList, "b".toList]).db.rows.map (·.rowid) = [1, 2, 3] := by decide +kernel

end Cicada.Hist
