import Cicada.Thm.C04
/-!
# C04, continued: builtins that are the whole line, and the child's `<` / `<<<`

`builtinPrint` (the model of `builtins::utils`) walks the redirection list once, keeping one
candidate descriptor per stream.  `C04_builtin_target`: for EVERY redirection list, as long as every step obtained its
descriptor (no target refused, no descriptor exhaustion — `AllCand`), the object the text is finally written to is the one
the left-to-right reference semantics (`specPrint`) assigns to that stream, or nothing is written at all (the final
`dup` failed).  The excluded case "a target cannot be opened" is the open finding `KF-C04-builtin-unopenable`.

`C04_stdin`, `C04_stdin_unreadable`: `< file` and `<<< word` of a forked stage.
-/
namespace Cicada.C04
open Cicada.Kernel Cicada.Kernel.Table Cicada.Pipeline Cicada.SpecFd

def AllCand (cfg : Cfg) : List Redir → Table → Option Nat → Option Nat → List (Str × Nat) → Prop
  | [], _, _, _, _ => True
  | (from_, op, to) :: rest, t, o, e, lg =>
    let isOut := from_ = "1".toList
    if !isOut ∧ from_ ≠ "2".toList then AllCand cfg rest t o e lg
    else
      let c := candFd cfg t o e lg isOut op to
      c.2.1.isSome ∧
      (if isOut then AllCand cfg rest (closeOptFd c.1 o) c.2.1 e c.2.2
       else AllCand cfg rest (closeOptFd c.1 e) o c.2.1 c.2.2)

/-- the object a stream currently goes to: its candidate descriptor if it has one, else the shell's own 1 / 2 -/
def objAt (t : Table) (c : Option Nat) (d : Nat) : Option Obj := (t (c.getD d)).map (·.obj)

/-- the walk's state against the reference slots.  A candidate is freshly allocated, so never 1 or 2 (`oOk`, `eOk`) and never
the other stream's (`ne`): closing one stream's old candidate cannot disturb what the other stream falls back to. -/
structure WRel (t : Table) (o e : Option Nat) (sl : Slots) : Prop where
  r1 : objAt t o 1 = sl.s1.map (·.obj)
  r2 : objAt t e 2 = sl.s2.map (·.obj)
  o1 : (t 1).isSome
  o2 : (t 2).isSome
  oOk : ∀ fd, o = some fd → fd ≠ 1 ∧ fd ≠ 2 ∧ (t fd).isSome
  eOk : ∀ fd, e = some fd → fd ≠ 1 ∧ fd ≠ 2 ∧ (t fd).isSome
  ne : ∀ a b, o = some a → e = some b → a ≠ b

theorem closeOptFd_apply (t : Table) (c : Option Nat) (x : Nat) : (closeOptFd t c) x = if c = some x then none else t x := by
  cases c with
  | none => simp [closeOptFd]
  | some fd =>
    simp only [closeOptFd, close_apply, Option.some.injEq]
    by_cases h : x = fd
    · simp [h]
    · have : ¬ fd = x := fun e => h e.symm
      simp [h, this]

theorem replace_cand {t t' : Table} {c c2 : Option Nat} {d2 fd : Nat} {en : Ent} {v2 : Option Obj}
    (ht' : t' = closeOptFd (t.set fd en) c) (hfree : t fd = none) (h1 : (t 1).isSome) (h2 : (t 2).isSome) (hd : d2 = 1 ∨ d2 = 2)
    (hok : ∀ x, c = some x → x ≠ 1 ∧ x ≠ 2 ∧ (t x).isSome) (hok2 : ∀ x, c2 = some x → x ≠ 1 ∧ x ≠ 2 ∧ (t x).isSome)
    (hne : ∀ a b, c = some a → c2 = some b → a ≠ b) (hr2 : objAt t c2 d2 = v2) :
    t' fd = some en ∧ (t' 1).isSome ∧ (t' 2).isSome ∧ fd ≠ 1 ∧ fd ≠ 2 ∧ objAt t' c2 d2 = v2 ∧
      ∀ x, c2 = some x → (t' x).isSome ∧ x ≠ fd := by
  have hf1 : fd ≠ 1 := fun e' => by subst e'; rw [hfree] at h1; cases h1
  have hf2 : fd ≠ 2 := fun e' => by subst e'; rw [hfree] at h2; cases h2
  have hc : c ≠ some fd := fun e' => by have := (hok fd e').2.2; rw [hfree] at this; cases this
  have hc2 : c2 ≠ some fd := fun e' => by have := (hok2 fd e').2.2; rw [hfree] at this; cases this
  have val : ∀ x, c ≠ some x → t' x = if x = fd then some en else t x := fun x hx => by
    rw [ht', closeOptFd_apply, if_neg hx]; rfl
  have hc1 : c ≠ some 1 := fun e' => (hok 1 e').1 rfl
  have hc2' : c ≠ some 2 := fun e' => (hok 2 e').2.1 rfl
  refine ⟨by rw [val fd hc, if_pos rfl], by rw [val 1 hc1, if_neg (Ne.symm hf1)]; exact h1,
    by rw [val 2 hc2', if_neg (Ne.symm hf2)]; exact h2, hf1, hf2, ?_, ?_⟩
  · have hne' : c ≠ some (c2.getD d2) ∧ c2.getD d2 ≠ fd := by
      cases c2 with
      | none => rcases hd with rfl | rfl
                · exact ⟨hc1, Ne.symm hf1⟩
                · exact ⟨hc2', Ne.symm hf2⟩
      | some b => exact ⟨fun e' => hne b b e' rfl rfl, fun e' => hc2 (congrArg some e')⟩
    rw [← hr2]
    simp only [objAt]
    rw [val _ hne'.1, if_neg hne'.2]
  · intro x hx
    have hxf : x ≠ fd := fun e' => hc2 (e' ▸ hx)
    refine ⟨?_, hxf⟩
    rw [val x (fun e' => hne x x e' hx rfl), if_neg hxf]
    exact (hok2 x hx).2.2

theorem wrel_replace_out {t t1 : Table} {o e : Option Nat} {sl : Slots} {lim fd : Nat} {en : Ent} (h : WRel t o e sl)
    (ha : t.alloc lim en = some (t1, fd)) {sl' : Slots} (hobj : sl'.s1.map (·.obj) = some en.obj) (h2 : sl'.s2 = sl.s2) :
    WRel (closeOptFd t1 o) (some fd) e sl' := by
  obtain ⟨hfree, rfl⟩ := alloc_spec ha
  obtain ⟨hv, h1', h2', hf1, hf2, hr, hk⟩ := replace_cand rfl hfree h.o1 h.o2 (Or.inr rfl) h.oOk h.eOk h.ne h.r2
  exact ⟨by simp only [objAt, Option.getD_some]; rw [hv, hobj]; rfl, by rw [h2]; exact hr, h1', h2',
    fun x hx => by cases hx; exact ⟨hf1, hf2, by rw [hv]; rfl⟩,
    fun x hx => ⟨(h.eOk x hx).1, (h.eOk x hx).2.1, (hk x hx).1⟩,
    fun a b ha hb => by cases ha; exact fun e' => (hk b hb).2 e'.symm⟩

theorem wrel_replace_err {t t1 : Table} {o e : Option Nat} {sl : Slots} {lim fd : Nat} {en : Ent} (h : WRel t o e sl)
    (ha : t.alloc lim en = some (t1, fd)) {sl' : Slots} (h1 : sl'.s1 = sl.s1) (hobj : sl'.s2.map (·.obj) = some en.obj) :
    WRel (closeOptFd t1 e) o (some fd) sl' := by
  obtain ⟨hfree, rfl⟩ := alloc_spec ha
  obtain ⟨hv, h1', h2', hf1, hf2, hr, hk⟩ := replace_cand rfl hfree h.o1 h.o2 (Or.inl rfl) h.eOk h.oOk
    (fun a b ha hb => (h.ne b a hb ha).symm) h.r1
  exact ⟨by rw [h1]; exact hr, by simp only [objAt, Option.getD_some]; rw [hv, hobj]; rfl, h1', h2',
    fun x hx => ⟨(h.oOk x hx).1, (h.oOk x hx).2.1, (hk x hx).1⟩,
    fun x hx => by cases hx; exact ⟨hf1, hf2, by rw [hv]; rfl⟩,
    fun a b ha hb => by cases hb; exact (hk a ha).2⟩

theorem str2_ne_str1 : ("2".toList : Str) ≠ "1".toList := by decide

theorem getStdFdsGo_out (cfg : Cfg) (op to : Str) (rs : List Redir) (t : Table) (o e : Option Nat) (lg : List (Str × Nat)) :
    getStdFdsGo cfg (("1".toList, op, to) :: rs) t o e lg =
      getStdFdsGo cfg rs (closeOptFd (candFd cfg t o e lg true op to).1 o) (candFd cfg t o e lg true op to).2.1 e
        (candFd cfg t o e lg true op to).2.2 := rfl

theorem getStdFdsGo_err (cfg : Cfg) (op to : Str) (rs : List Redir) (t : Table) (o e : Option Nat) (lg : List (Str × Nat)) :
    getStdFdsGo cfg (("2".toList, op, to) :: rs) t o e lg =
      getStdFdsGo cfg rs (closeOptFd (candFd cfg t o e lg false op to).1 e) o (candFd cfg t o e lg false op to).2.1
        (candFd cfg t o e lg false op to).2.2 := rfl

theorem allCand_out (cfg : Cfg) (op to : Str) (rs : List Redir) (t : Table) (o e : Option Nat) (lg : List (Str × Nat)) :
    AllCand cfg (("1".toList, op, to) :: rs) t o e lg ↔ (candFd cfg t o e lg true op to).2.1.isSome ∧
      AllCand cfg rs (closeOptFd (candFd cfg t o e lg true op to).1 o) (candFd cfg t o e lg true op to).2.1 e
        (candFd cfg t o e lg true op to).2.2 := Iff.rfl

theorem allCand_err (cfg : Cfg) (op to : Str) (rs : List Redir) (t : Table) (o e : Option Nat) (lg : List (Str × Nat)) :
    AllCand cfg (("2".toList, op, to) :: rs) t o e lg ↔ (candFd cfg t o e lg false op to).2.1.isSome ∧
      AllCand cfg rs (closeOptFd (candFd cfg t o e lg false op to).1 e) o (candFd cfg t o e lg false op to).2.1
        (candFd cfg t o e lg false op to).2.2 := Iff.rfl

/-- **the walk against the reference semantics**: when every step obtained its descriptor, the reference semantics
accepts the list and the two candidate descriptors hold exactly the objects of its slots 1 and 2 -/
theorem walk_rel (cfg : Cfg) : ∀ (rs : List Redir) (t : Table) (o e : Option Nat) (lg : List (Str × Nat)) (sl : Slots),
    (∀ r ∈ rs, r.1 = "1".toList ∨ r.1 = "2".toList) → WRel t o e sl → AllCand cfg rs t o e lg →
    (applyRedirs cfg sl rs).2 = true ∧
    WRel (getStdFdsGo cfg rs t o e lg).1 (getStdFdsGo cfg rs t o e lg).2.1 (getStdFdsGo cfg rs t o e lg).2.2.1 (applyRedirs cfg sl rs).1 := by
  intro rs
  induction rs with
  | nil => intro t o e lg sl _ h _; exact ⟨rfl, h⟩
  | cons r rs ih =>
    intro t o e lg sl hfrom hrel hall
    obtain ⟨from_, op, to⟩ := r
    have hfrom' : ∀ r ∈ rs, r.1 = "1".toList ∨ r.1 = "2".toList := fun r hr => hfrom r (List.mem_cons_of_mem _ hr)
    rcases hfrom (from_, op, to) List.mem_cons_self with hout | herr
    · -- a redirection of stdout: `1>&2` copies slot 2, anything else is a file
      change from_ = "1".toList at hout
      subst hout
      rw [getStdFdsGo_out]
      obtain ⟨hsome, hrest⟩ := (allCand_out cfg op to rs t o e lg).mp hall
      rcases candFd_cases cfg t o e lg true op to with ⟨_, hn⟩ | ⟨en, fd, ha, hc, hobj⟩
      · rw [hn] at hsome; cases hsome
      rw [hc] at hrest ⊢
      have h1 : ¬ (to = "&1".toList ∧ "1".toList = "2".toList) := fun h => str2_ne_str1 h.2.symm
      by_cases hd : to = "&2".toList
      · rw [if_pos ⟨rfl, hd⟩] at hobj
        rw [applyRedirs_outToErr cfg sl op rs h1 ⟨hd, rfl⟩]
        exact ih _ _ _ _ _ hfrom' (wrel_replace_out hrel ha (hrel.r2.symm.trans hobj) rfl) hrest
      · rw [if_neg (fun h => hd h.2), if_neg (fun h => Bool.noConfusion h.1)] at hobj
        rw [applyRedirs_file cfg sl op rs h1 (fun h => hd h.1) hobj.1, if_pos rfl]
        exact ih _ _ _ _ _ hfrom' (wrel_replace_out hrel ha (congrArg some hobj.2.symm) rfl) hrest
    · -- a redirection of stderr: `2>&1` copies slot 1
      change from_ = "2".toList at herr
      subst herr
      rw [getStdFdsGo_err]
      obtain ⟨hsome, hrest⟩ := (allCand_err cfg op to rs t o e lg).mp hall
      rcases candFd_cases cfg t o e lg false op to with ⟨_, hn⟩ | ⟨en, fd, ha, hc, hobj⟩
      · rw [hn] at hsome; cases hsome
      rw [hc] at hrest ⊢
      have h2 : ¬ (to = "&2".toList ∧ "2".toList = "1".toList) := fun h => str2_ne_str1 h.2
      rw [if_neg (fun h => Bool.noConfusion h.1)] at hobj
      by_cases hd : to = "&1".toList
      · rw [if_pos ⟨rfl, hd⟩] at hobj
        rw [applyRedirs_errToOut cfg sl op rs ⟨hd, rfl⟩]
        exact ih _ _ _ _ _ hfrom' (wrel_replace_err hrel ha rfl (hrel.r1.symm.trans hobj)) hrest
      · rw [if_neg (fun h => hd h.2)] at hobj
        rw [applyRedirs_file cfg sl op rs (fun h => hd h.1) h2 hobj.1, if_neg str2_ne_str1]
        exact ih _ _ _ _ _ hfrom' (wrel_replace_err hrel ha rfl (congrArg some hobj.2.symm)) hrest

/-- **builtins: the text goes where the reference semantics says.**  For every redirection list (descriptors 1 / 2, as
`tokens_to_redirections` produces them) and every table with 1 and 2 open: if every step of the walk obtained its
descriptor, the reference semantics accepts the list, and the object `print_stdout` / `print_stderr` finally writes to is
the object of the reference slot — unless the final `dup` of an unredirected stream failed and nothing is written -/
theorem C04_builtin_target (cfg : Cfg) (rs : List Redir) (err : Bool) (t0 : Table)
    (h1 : (t0 1).isSome) (h2 : (t0 2).isSome) (hfrom : ∀ r ∈ rs, r.1 = "1".toList ∨ r.1 = "2".toList)
    (hall : AllCand cfg rs t0 none none []) :
    (specPrint cfg rs err t0).failed = false ∧
    ((builtinPrint cfg rs err t0).target = none ∨ (builtinPrint cfg rs err t0).target = (specPrint cfg rs err t0).target) := by
  have hw0 : WRel t0 none none { s0 := t0 0, s1 := t0 1, s2 := t0 2 } :=
    ⟨rfl, rfl, h1, h2, (fun _ h => by cases h), (fun _ h => by cases h), (fun _ _ h => by cases h)⟩
  obtain ⟨hok, hw⟩ := walk_rel cfg rs t0 none none [] _ hfrom hw0 hall
  unfold specPrint
  generalize applyRedirs cfg { s0 := t0 0, s1 := t0 1, s2 := t0 2 } rs = sp at hok hw
  obtain ⟨sl, ok⟩ := sp
  simp only at hok hw
  subst hok
  refine ⟨rfl, ?_⟩
  unfold builtinPrint getStdFds
  generalize getStdFdsGo cfg rs t0 none none [] = r at hw
  obtain ⟨t1, o, e, lg⟩ := r
  simp only at hw ⊢
  -- the last step: close the other stream's candidate, write to this stream's (or to a dup of 1 / 2)
  have fin : ∀ (mine other : Option Nat) (d : Nat) (slot : Option Ent), objAt t1 mine d = slot.map (·.obj) →
      (∀ a b, mine = some a → other = some b → a ≠ b) → (d = if err then 2 else 1) →
      (finishPrint cfg err t1 mine other lg).target = none ∨ (finishPrint cfg err t1 mine other lg).target = slot.map (·.obj) := by
    intro mine other d slot hobj hne hderr
    unfold finishPrint
    simp only
    cases mine with
    | some fd =>
      right
      simp only
      rw [closeOptFd_apply]
      have : other ≠ some fd := fun e' => hne fd fd rfl e' rfl
      simp only [this, ↓reduceIte]
      simpa [objAt] using hobj
    | none =>
      simp only
      cases hdup : (closeOptFd t1 other).dup cfg.lim (if err then 2 else 1) with
      | none => left; rfl
      | some p =>
        obtain ⟨t3, fd⟩ := p
        right
        simp only
        unfold Table.dup at hdup
        cases hsrc : (closeOptFd t1 other) (if err then 2 else 1) with
        | none => simp [hsrc] at hdup
        | some en =>
          simp only [hsrc] at hdup
          obtain ⟨_, rfl⟩ := alloc_spec hdup
          have hsrc' : t1 d = some en := by
            rw [← hderr, closeOptFd_apply] at hsrc
            by_cases hod : other = some d
            · simp [hod] at hsrc
            · simpa [hod] using hsrc
          simp only [set_apply, ↓reduceIte, Option.map_some]
          simpa [objAt, hsrc'] using hobj
  cases err with
  | true =>
    simp only [↓reduceIte]
    exact fin e o 2 sl.s2 hw.r2 (fun a b ha hb => (hw.ne b a hb ha).symm) rfl
  | false =>
    simp only [Bool.false_eq_true, ↓reduceIte]
    exact fin o e 1 sl.s1 hw.r1 hw.ne rfl

/-- `AllCand` as a computation (for the non-vacuity check) -/
def allCandB (cfg : Cfg) : List Redir → Table → Option Nat → Option Nat → List (Str × Nat) → Bool
  | [], _, _, _, _ => true
  | (from_, op, to) :: rest, t, o, e, lg =>
    let isOut := from_ = "1".toList
    if !isOut ∧ from_ ≠ "2".toList then allCandB cfg rest t o e lg
    else
      let c := candFd cfg t o e lg isOut op to
      c.2.1.isSome &&
      (if isOut then allCandB cfg rest (closeOptFd c.1 o) c.2.1 e c.2.2
       else allCandB cfg rest (closeOptFd c.1 e) o c.2.1 c.2.2)

theorem allCandB_iff (cfg : Cfg) : ∀ rs t o e lg, allCandB cfg rs t o e lg = true → AllCand cfg rs t o e lg := by
  intro rs
  induction rs with
  | nil => intro _ _ _ _ _; trivial
  | cons r rs ih =>
    intro t o e lg h
    obtain ⟨from_, op, to⟩ := r
    unfold allCandB at h
    unfold AllCand
    simp only at h ⊢
    split at h
    · rename_i hs; rw [if_pos hs]; exact ih _ _ _ _ h
    · rename_i hs; rw [if_neg hs]
      simp only [Bool.and_eq_true] at h
      obtain ⟨ha, hb⟩ := h
      refine ⟨ha, ?_⟩
      split at hb
      · rename_i hi; rw [if_pos hi]; exact ih _ _ _ _ hb
      · rename_i hi; rw [if_neg hi]; exact ih _ _ _ _ hb

/-- non-vacuity: `2> e 1>&2 >> o` with everything openable: every step gets its descriptor, stdout goes to `o` (append) -/
example : AllCand wCfg [(['2'], ['>'], ['e']), (['1'], ['>'], ['&', '2']), (['1'], ['>', '>'], ['o'])] wT0 none none [] ∧
    (builtinPrint wCfg [(['2'], ['>'], ['e']), (['1'], ['>'], ['&', '2']), (['1'], ['>', '>'], ['o'])] false wT0).target = some (.file ['o'] 2) :=
  ⟨allCandB_iff _ _ _ _ _ _ (by decide +kernel), by decide +kernel⟩

/-- **`< file` and `<<< word`** (the child's second phase, core.rs:393-411): when it succeeds, descriptor 0 is the named file
opened for reading (`<`), or the read end of the here-string pipe (`<<<`), or untouched; descriptors 1 and 2 are
untouched in every case -/
theorem C04_stdin (cfg : Cfg) (cmd : Command) (hs : Option Fds) (t t' : Table) (hstd : Std3 t)
    (hhs : ∀ p, hs = some p → 3 ≤ p.1 ∧ 3 ≤ p.2 ∧ p.1 ≠ p.2)
    (hr : childStdin cfg cmd hs t = some t') :
    t' 1 = t 1 ∧ t' 2 = t 2 ∧
    (cmd.isHere = true → ∀ p e, hs = some p → t p.1 = some e → (t' 0).map (·.obj) = some e.obj) ∧
    (cmd.isHere = false → cmd.isFrom = true →
        (t' 0).map (·.obj) = some (.file ((cmd.redirectFrom.map (fun (x : Tok) => x.2)).getD []) 0)) ∧
    (cmd.isHere = false → cmd.isFrom = false → t' 0 = t 0) := by
  obtain ⟨t1, hfrom, rfl⟩ := childStdin_some hr
  have hfrom' : Std3 t1 ∧ t1 1 = t 1 ∧ t1 2 = t 2 ∧ (∀ x, 3 ≤ x → (t x).isSome → t1 x = t x) ∧
      (cmd.isFrom = true → (t1 0).map (·.obj) = some (.file ((cmd.redirectFrom.map (fun (x : Tok) => x.2)).getD []) 0)) ∧
      (cmd.isFrom = false → t1 0 = t 0) := by
    rcases hfrom with ⟨hf, rfl⟩ | ⟨hf, t2, fd, ho, rfl⟩
    · exact ⟨hstd, rfl, rfl, (fun _ _ _ => rfl), (fun h => by rw [hf] at h; cases h), (fun _ => rfl)⟩
    · obtain ⟨a, b, c⟩ := temp_onto hstd ho (dst := 0) (by omega) (Or.inr rfl)
      have hfd3 := alloc_ge3 hstd.o0 hstd.o1 hstd.o2 ho
      obtain ⟨hfree, rfl⟩ := alloc_spec ho
      refine ⟨a, c 1 (by omega) (by omega), c 2 (by omega) (by omega), ?_, (fun _ => b), (fun h => by rw [hf] at h; cases h)⟩
      intro x hx hxs
      have hxf : x ≠ fd := fun e => by rw [e, hfree] at hxs; cases hxs
      rw [close_apply, if_neg hxf, set_dup2_apply t _ (by omega) hxf, if_neg (by omega)]
  obtain ⟨hs1, h11, h12, hkeep, hfile, hsame⟩ := hfrom'
  cases hh : cmd.isHere with
  | false =>
    simp only [Bool.false_eq_true, ↓reduceIte]
    exact ⟨h11, h12, (fun h => by cases h), (fun _ hf => hfile hf), (fun _ hf => hsame hf)⟩
  | true =>
    cases hs with
    | none =>
      simp only [↓reduceIte]
      exact ⟨h11, h12, (fun _ p e hp _ => by cases hp), (fun h => by cases h), (fun h => by cases h)⟩
    | some p =>
      obtain ⟨hp1, hp2, hne⟩ := hhs p rfl
      simp only [↓reduceIte]
      have hval : ∀ x, x < 3 → (((t1.close p.2).dup2 p.1 0).close p.1) x =
          if x = 0 then ((t1.close p.2).dup2 p.1 0) 0 else t1 x := by
        intro x hx
        have h1 : x ≠ p.1 := by omega
        simp only [close_apply, h1, ↓reduceIte]
        by_cases hx0 : x = 0
        · simp [hx0]
        · rw [dup2_other _ _ _ _ hx0]
          have h2 : x ≠ p.2 := by omega
          simp [hx0, h2]
      refine ⟨?_, ?_, ?_, (fun h => by cases h), (fun h => by cases h)⟩
      · rw [hval 1 (by omega)]; simpa using h11
      · rw [hval 2 (by omega)]; simpa using h12
      · intro _ q e hq he
        simp only [Option.some.injEq] at hq
        rw [← hq] at he
        rw [hval 0 (by omega)]
        simp only [↓reduceIte]
        have hsrc : (t1.close p.2) p.1 = some e := by
          simp only [close_apply, hne, ↓reduceIte]
          rw [hkeep p.1 hp1 (by simp [he])]; exact he
        rw [dup2_of_some hsrc (by omega)]
        simp

/-- an unreadable `<` file: the child stops before exec (the program is not run) -/
theorem C04_stdin_unreadable (cfg : Cfg) (cmd : Command) (hs : Option Fds) (t : Table)
    (hf : cmd.isFrom = true) (hu : cfg.canRead ((cmd.redirectFrom.map (fun (x : Tok) => x.2)).getD []) = false) :
    childStdin cfg cmd hs t = none := by
  unfold childStdin
  simp [hf, hu]

end Cicada.C04
