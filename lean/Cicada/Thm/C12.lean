import Cicada.Lemmas.Brace
import Cicada.Lemmas.Lit
/-!
# C12 — brace, tilde and filename expansion yield exactly the specified words

`C12_brace`: for every brace term (any nesting, any number of alternatives per group, empty alternatives, one-element groups
which keep their braces) whose literals are free of `{ } , \`, whatever `brace_getitem` returns on the rendered text is the
left-to-right cartesian product `denote`, and some fuel does return it.  That the fuel `expand_brace` itself passes
(`2 * length + 2`) suffices is NOT proved: `C12_brace_token` is conditional on the pass answering `.ok`.
The `C12_glob_*` theorems here are about one token of the filename pass; the pass on whole lines is `C12_glob_refines`.
-/
namespace Cicada.C12
open Cicada

theorem braceItem_det {f g : Nat} {out s d r r'} (h1 : braceItem f out s d = some r) (h2 : braceItem g out s d = some r') :
    r = r' := by
  have a := braceItem_fuel_mono (Nat.le_max_left f g) h1
  have b := braceItem_fuel_mono (Nat.le_max_right f g) h2
  rw [a] at b; exact Option.some.inj b

theorem C12_brace_terminates (w : Word) (hok : okW w = true) :
    ∃ g, braceItem g [[]] (render w) 0 = some (denote w, []) := by
  have base : braceItem 1 (prod [[]] (denote w)) [] 0 = some (denote w, []) := by
    simp [braceItem, prod_unit_left]
  obtain ⟨g, hg⟩ := itemW w [[]] [] 0 1 _ hok base
  exact ⟨g, by simpa using hg⟩

/-- **brace expansion**: whatever fuel is used, an answer is the cartesian product of the term -/
theorem C12_brace (w : Word) (hok : okW w = true) (f : Nat) (r : List Str × Str)
    (h : braceItem f [[]] (render w) 0 = some r) : r = (denote w, []) := by
  obtain ⟨g, hg⟩ := C12_brace_terminates w hok
  exact braceItem_det h hg

/-- conditional on the pass answering: its own fuel is not shown sufficient -/
theorem C12_brace_token (w : Word) (hok : okW w = true) (hgate : needExpandBrace (render w) = true)
    (items : List Tok) (h : expandBrace [([], render w)] = .ok items) :
    items = (denote w).map tagBlank := by
  simp only [expandBrace, Outcome.bind, hgate] at h
  cases hb : braceItem (2 * (render w).length + 2) [[]] (render w) 0 with
  | none => rw [hb] at h; simp at h
  | some r =>
    rw [hb] at h
    have := C12_brace w hok _ r hb
    subst this
    simp at h
    simpa using h.symm

theorem C12_brace_gate (t : Str) (h : needExpandBrace t = false) : expandBrace [([], t)] = .ok [([], t)] := by
  simp [expandBrace, Outcome.bind, h]

/-- expansion is never applied inside quotes -/
theorem C12_quoted_untouched (sep text : Str) (h : sep ≠ []) :
    expandBrace [(sep, text)] = .ok [(sep, text)] ∧ expandBraceRange [(sep, text)] = [(sep, text)] ∧
    (∀ e, expandGlob e [(sep, text)] = [(sep, text)]) ∧ (∀ e, expandHome e [(sep, text)] = [(sep, text)]) := by
  refine ⟨?_, ?_, ?_, ?_⟩
  · simp [expandBrace, Outcome.bind, h]
  · simp [expandBraceRange, expandRangeGo, rangeToken, h]
  · intro e; simp [expandGlob, expandGlobGo, globToken, h]
  · intro e; simp [expandHome, h]

/-- the words of the line keep their relative order: the pass distributes over concatenation (`b` is bound first because
`expandBrace` expands the tail of the line before its head) -/
theorem C12_order (a b : List Tok) :
    expandBrace (a ++ b) = (expandBrace b).bind (fun b' => (expandBrace a).bind (fun a' => .ok (a' ++ b'))) := by
  induction a with
  | nil =>
    simp only [List.nil_append, expandBrace]
    cases expandBrace b <;> simp [Outcome.bind]
  | cons t rest ih =>
    obtain ⟨sep, text⟩ := t
    simp only [List.cons_append, expandBrace, ih]
    cases expandBrace b <;> simp only [Outcome.bind]
    cases expandBrace rest <;> simp only
    split
    · simp
    · split <;> simp

/-- the idea of `C12_home`: a text free of `$` passes through the regex replacement template unchanged -/
theorem expandTemplate_noDollar (caps : Caps) (s : Str) (h : ∀ c ∈ s, c ≠ '$') : ∀ (f : Nat) (rest : Str), s.length < f →
    expandTemplateAux caps f (s ++ rest) = s ++ expandTemplateAux caps (f - s.length) rest := by
  induction s with
  | nil => intro f rest _; simp
  | cons c cs ih =>
    intro f rest hf
    cases f with
    | zero => simp at hf
    | succ f =>
      have hc := h c (by simp)
      simp only [List.cons_append, expandTemplateAux, hc, ne_eq, not_false_eq_true, ↓reduceIte]
      rw [ih (fun x hx => h x (by simp [hx])) f rest (by simp at hf; omega)]
      simp

/-- **tilde**: `~rest` becomes the home directory followed by `rest` (home free of `$`, one-line word) -/
theorem C12_home (home rest : Str) (hh : ∀ c ∈ home, c ≠ '$') (hr : ∀ c ∈ rest, c ≠ '\n') :
    expandHomeText home ('~' :: rest) = home ++ rest := by
  have hp : ∀ c ∈ rest, decide (c ≠ '\n') = true := fun c hc => by simpa using hr c hc
  have h1 : rest.takeWhile (· ≠ '\n') = rest := by
    simpa using List.takeWhile_append_of_pos (l₂ := []) hp
  have h2 : rest.dropWhile (· ≠ '\n') = [] := by
    simpa using List.dropWhile_append_of_pos (l₂ := []) hp
  simp only [expandHomeText, h1, h2, List.append_nil, expandTemplate]
  rw [expandTemplate_noDollar _ home hh _ _ (by simp; omega)]
  congr 1
  -- fuel left for the rest of the template: the five characters of `$tail` and one
  have : home.length + "$tail".toList.length + 1 - home.length = 6 := by
    simp; omega
  simp only [List.length_append, this]
  simp [expandTemplateAux, isCapLetter, isDigitA, isAlphaA, Caps.byRef, parseUsize, List.takeWhile, List.dropWhile]

theorem globToken_items {e : Env} {text : Str} {paths l : List Str} (h1 : e.glob text = some paths)
    (h2 : globToken e [] text = .items l) (h3 : l ≠ [text]) :
    l = paths.filter (fun p => !(basename p = ['.', '.'] || basename p = ['.']) &&
      !((basename p).head? = some '.' && !startsWith (basename text) ['.', '*'])) := by
  unfold globToken at h2
  split at h2
  · simp at h2
  · split at h2
    · simp at h2; exact absurd h2.symm h3
    · rw [h1] at h2
      simp only at h2
      split at h2
      · simp at h2; exact absurd h2.symm h3
      · simpa using h2.symm

/-- the produced words are matches of the pattern, in the matcher's order -/
theorem C12_glob_sublist (e : Env) (text : Str) (paths l : List Str) (h1 : e.glob text = some paths)
    (h2 : globToken e [] text = .items l) (h3 : l ≠ [text]) : l.Sublist paths := by
  rw [globToken_items h1 h2 h3]; exact List.filter_sublist

/-- no hidden entry is produced unless the pattern's last component starts with `.*` -/
theorem C12_glob_hidden (e : Env) (text : Str) (paths l : List Str) (h1 : e.glob text = some paths)
    (h2 : globToken e [] text = .items l) (h3 : l ≠ [text]) (hs : startsWith (basename text) ['.', '*'] = false) :
    ∀ p ∈ l, (basename p).head? ≠ some '.' := by
  intro p hp
  rw [globToken_items h1 h2 h3, List.mem_filter, hs] at hp
  simp only [Bool.and_eq_true, Bool.not_eq_true', Bool.not_false, Bool.and_true, decide_eq_false_iff_not] at hp
  exact hp.2.2

/-- a word without `*`, or a quoted word, is not a pattern -/
theorem C12_glob_not_pattern (e : Env) (sep text : Str) (h : sep ≠ [] ∨ ¬ ('*' ∈ text)) :
    globToken e sep text = .unchanged := by
  unfold globToken
  rcases h with h | h
  · simp [h]
  · simp [h]

/-- a produced word that contains a blank is tagged as quoted, so it stays one argument -/
theorem C12_blank_one_argument (t : Str) (h : ' ' ∈ t) : (tagBlank t).1 = ['"'] := by
  simp [tagBlank, h]

/-! ### non-vacuity: `a{b,{c,d}}{e}` -/
def wTerm : Word :=
  .cons (.lit 'a') (.cons (.grp (.more (.cons (.lit 'b') .nil) (.one (.cons (.grp (.more (.cons (.lit 'c') .nil) (.one (.cons (.lit 'd') .nil)))) .nil))))
    (.cons (.grp (.one (.cons (.lit 'e') .nil))) .nil))
example : okW wTerm = true := by decide +kernel
example : render wTerm = "a{b,{c,d}}{e}".toList := by
  lit_lists
  decide +kernel
example : denote wTerm = ["ab{e}".toList, "ac{e}".toList, "ad{e}".toList] := by
  lit_lists
  decide +kernel

end Cicada.C12
