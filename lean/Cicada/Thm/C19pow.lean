import Cicada.Thm.C19
import Cicada.Spec.C19
/-!
# C19 — `^` against the exact power

`Calc.powWrap` is square-and-multiply modulo 2^64 (the model of `i64::wrapping_pow`);
`Calc.applyOp .pow l r` calls it with `rhs as u32`, i.e. the exponent reduced modulo 2^32.

* `C19_pow_hom`       : `powWrap a n = wrap64 (a ^ n)` for EVERY integer base and every `n < 2^64`
                        (the 64 rounds of the loop consume 64 exponent bits; the code only ever passes `n < 2^32`).
* `C19_pow_apply`     : the operator on all operands: the exponent is `r mod 2^32` (`rhs as u32`);
  `C19_pow_inrange` (`0 ≤ r < 2^32`: the exact power), `C19_pow_negative` (`-2^32 ≤ r < 0`: exponent `r + 2^32`),
  `C19_pow_huge` (`r` in the k-th window of width 2^32: exponent `r - 2^32·k`).
* `C19_wrap_hom_pow`  : the evaluation homomorphism for trees over `+ - * ^` whose every exponent sub-tree has
                        an exact value in `[0, 2^32)`: wrapping at every step = exact value reduced to 64 bits.
* `C19_spec_eval`     : whenever the reference evaluator `C19.specEval` (Spec/C19.lean) fixes a value, the model's
                        `evalTree` returns exactly that value (all five operators).
-/
namespace Cicada.C19
open Cicada Cicada.Calc


theorem int_emod_pow (a m : Int) (n : Nat) : (a % m) ^ n % m = a ^ n % m := by
  induction n with
  | zero => simp
  | succ n ih => rw [Int.pow_succ, Int.pow_succ, Int.mul_emod, ih, Int.emod_emod, ← Int.mul_emod]

theorem sq_mul_step (m acc b e : Nat) :
    (if e % 2 = 1 then acc * b % m else acc) * (b * b % m) ^ (e / 2) % m = acc * b ^ e % m := by
  have hb : b ^ e = (b * b) ^ (e / 2) * b ^ (e % 2) := by
    conv => lhs; rw [← Nat.div_add_mod e 2, Nat.pow_add, Nat.pow_mul, Nat.pow_two]
  rw [hb, Nat.mul_mod, ← Nat.pow_mod, ← Nat.mul_mod]
  by_cases hodd : e % 2 = 1
  · rw [if_pos hodd, hodd, Nat.pow_one, Nat.mul_mod, Nat.mod_mod, ← Nat.mul_mod, Nat.mul_assoc,
      Nat.mul_comm b ((b * b) ^ (e / 2))]
  · rw [if_neg hodd, show e % 2 = 0 by omega, Nat.pow_zero, Nat.mul_one]

theorem powModAux_eq : ∀ (f b e acc : Nat), e < 2 ^ f → powModAux f b e acc % 2 ^ 64 = acc * b ^ e % 2 ^ 64 := by
  intro f
  induction f with
  | zero =>
    intro b e acc he
    have : e = 0 := by simpa using he
    subst this
    rw [powModAux, Nat.pow_zero, Nat.mul_one]
  | succ f ih =>
    intro b e acc he
    unfold powModAux
    by_cases h0 : e = 0
    · rw [if_pos h0, h0, Nat.pow_zero, Nat.mul_one]
    · rw [if_neg h0, ih _ _ _ (by rw [Nat.pow_succ] at he; omega), sq_mul_step]

theorem C19_pow_hom (a : Int) (n : Nat) (hn : n < 2 ^ 64) : powWrap a n = wrap64 (a ^ n) := by
  have h64 : (2 : Int) ^ 64 = ((2 ^ 64 : Nat) : Int) := by decide
  refine wrap64_eq_iff.2 ?_
  rw [h64, Int.ofNat_eq_natCast, ← Int.natCast_mod, powModAux_eq 64 _ n 1 hn, Nat.one_mul, Int.natCast_mod,
    Int.natCast_pow, Int.toNat_of_nonneg (Int.emod_nonneg _ (by decide)), ← h64, int_emod_pow]

theorem C19_pow_apply (l r : Int) : applyOp .pow l r = .ok (wrap64 (l ^ (r % 2 ^ 32).toNat)) :=
  congrArg Outcome.ok (C19_pow_hom l _ (by omega))

theorem emod_window {m r k : Int} (h0 : m * k ≤ r) (h1 : r < m * (k + 1)) : r % m = r - m * k := by
  rw [Int.mul_add, Int.mul_one] at h1
  calc r % m = (r - m * k + m * k) % m := by rw [Int.sub_add_cancel]
    _ = (r - m * k) % m := Int.add_mul_emod_self_left _ _ _
    _ = r - m * k := Int.emod_eq_of_lt (by omega) (by omega)

theorem C19_pow_inrange (l r : Int) (h0 : 0 ≤ r) (h1 : r < 2 ^ 32) :
    applyOp .pow l r = .ok (wrap64 (l ^ r.toNat)) := by
  rw [C19_pow_apply, Int.emod_eq_of_lt h0 h1]

theorem C19_pow_negative (l r : Int) (h0 : -(2 ^ 32) ≤ r) (h1 : r < 0) :
    applyOp .pow l r = .ok (wrap64 (l ^ (r + 2 ^ 32).toNat)) := by
  rw [C19_pow_apply, emod_window (k := -1) (by omega) (by omega), Int.mul_neg, Int.mul_one, Int.sub_neg]

theorem C19_pow_huge (l r : Int) (k : Nat) (h0 : 2 ^ 32 * (k : Int) ≤ r) (h1 : r < 2 ^ 32 * (k + 1)) :
    applyOp .pow l r = .ok (wrap64 (l ^ (r - 2 ^ 32 * k).toNat)) := by
  rw [C19_pow_apply, emod_window h0 h1]

theorem wrap64_pow (a : Int) (n : Nat) : wrap64 (wrap64 a ^ n) = wrap64 (a ^ n) :=
  wrap64_eq_iff.2 (by rw [← int_emod_pow, wrap64_mod, int_emod_pow])

theorem wrap64_emod32 (x : Int) : wrap64 x % 2 ^ 32 = x % 2 ^ 32 := by
  have h : (2 : Int) ^ 32 ∣ 2 ^ 64 := ⟨2 ^ 32, by decide⟩
  rw [← Int.emod_emod_of_dvd (wrap64 x) h, wrap64_mod, Int.emod_emod_of_dvd x h]

/-- trees over `+ - * ^` in which the exact value of every exponent sub-tree lies in `[0, 2^32)` -/
def ring4 : E Int → Bool
  | .atom _ => true
  | .bin .div _ _ => false
  | .bin .pow l r => ring4 l && ring4 r && decide (0 ≤ evalZ r) && decide (evalZ r < 2 ^ 32)
  | .bin _ l r => ring4 l && ring4 r

theorem C19_wrap_hom_pow (t : E Int) (h : ring4 t = true) :
    ∃ r, evalTree t = .ok r ∧ wrap64 r = wrap64 (evalZ t) := by
  induction t with
  | atom v => exact ⟨v, rfl, rfl⟩
  | bin o l r ihl ihr =>
    cases o
    case div => cases h
    case pow =>
      simp only [ring4, Bool.and_eq_true, decide_eq_true_eq] at h
      obtain ⟨⟨⟨hl, hr⟩, h0⟩, h1⟩ := h
      obtain ⟨a, ha1, ha2⟩ := ihl hl
      obtain ⟨b, hb1, hb2⟩ := ihr hr
      -- the exponent the code uses, `b mod 2^32`, is the exact one: `b` and `evalZ r` agree modulo 2^64
      have hb : b % 2 ^ 32 = evalZ r := by
        rw [← wrap64_emod32 b, hb2, wrap64_emod32, Int.emod_eq_of_lt h0 h1]
      refine ⟨wrap64 (a ^ (evalZ r).toNat), ?_, ?_⟩
      · rw [evalTree_bin ha1 hb1, C19_pow_apply, hb]
      · rw [wrap64_idem, evalZ, ← wrap64_pow a, ha2, wrap64_pow]
    all_goals
      simp only [ring4, Bool.and_eq_true] at h
      exact evalTree_ring (by decide) (ihl h.1) (ihr h.2)

/-- `C19_wrap_hom` is the `+ - *` case of `C19_wrap_hom_pow` -/
theorem ring4_of_Ring3 : ∀ t : E Int, Ring3 t → ring4 t = true
  | .atom _, _ => rfl
  | .bin _ l r, ⟨ho, hl, hr⟩ => by
    rcases ho with rfl | rfl | rfl <;> simp only [ring4, ring4_of_Ring3 l hl, ring4_of_Ring3 r hr, Bool.and_self]

def inI64 (z : Int) : Bool := decide (i64Min ≤ z) && decide (z ≤ i64Max)

theorem inI64_iff {z : Int} : inI64 z = true ↔ i64Min ≤ z ∧ z ≤ i64Max := by
  simp only [inI64, Bool.and_eq_true, decide_eq_true_eq]

theorem wrap64_range (x : Int) : inI64 (wrap64 x) = true := by
  rw [inI64_iff, wrap64, i64Min, i64Max]; omega

theorem wrap64_of_range (x : Int) (h : inI64 x = true) : wrap64 x = x := by
  rw [inI64_iff, i64Min, i64Max] at h
  rw [wrap64]; omega

theorem applyOp_ok (o : Op) (a b : Int) : ∃ v, applyOp o a b = .ok v ∧ inI64 v = true := by
  cases o
  case div =>
    by_cases hb : b = 0
    · refine ⟨_, if_pos hb, ?_⟩
      split
      · decide
      · split <;> decide
    · exact ⟨_, if_neg hb, wrap64_range _⟩
  all_goals exact ⟨_, rfl, wrap64_range _⟩

/-- the `| _ => 0` branch is never taken (`applyOp_ok`) -/
def valE : E Int → Int
  | .atom v => v
  | .bin o l r =>
    match applyOp o (valE l) (valE r) with
    | .ok v => v
    | _ => 0

/-- `eval_int` never fails on a tree of values -/
theorem evalTree_valE (e : E Int) : evalTree e = .ok (valE e) := by
  induction e with
  | atom v => rfl
  | bin o l r ihl ihr =>
    obtain ⟨v, hv, _⟩ := applyOp_ok o (valE l) (valE r)
    rw [evalTree_bin ihl ihr, valE, hv]

def leavesIn : E Int → Bool
  | .atom v => inI64 v
  | .bin _ l r => leavesIn l && leavesIn r

theorem inI64_valE (t : E Int) (hl : leavesIn t = true) : inI64 (valE t) = true := by
  cases t with
  | atom v => exact hl
  | bin o l r =>
    obtain ⟨v, hv, hr⟩ := applyOp_ok o (valE l) (valE r)
    rw [valE, hv]; exact hr

theorem C19_wrap_hom_pow_exact (t : E Int) (h : ring4 t = true) (hl : leavesIn t = true) :
    evalTree t = .ok (wrap64 (evalZ t)) := by
  obtain ⟨r, h1, h2⟩ := C19_wrap_hom_pow t h
  have hr : r = valE t := Outcome.ok.inj (h1.symm.trans (evalTree_valE t))
  rw [h1, ← h2, wrap64_of_range r (hr ▸ inI64_valE t hl)]

def toE : T → E Int
  | .num z => .atom z
  | .bin o l r => .bin o (toE l) (toE r)

theorem C19_spec_eval (t : T) (v : Int) (h : specEval t = some v) : evalTree (toE t) = .ok v := by
  induction t generalizing v with
  | num z =>
    simp only [specEval] at h
    split at h
    · injection h with h; subst h; rfl
    · contradiction
  | bin o l r ihl ihr =>
    simp only [specEval] at h
    split at h
    · rename_i a b ha hb
      rw [toE, evalTree_bin (ihl a ha) (ihr b hb)]
      cases o <;> simp only at h
      · exact Option.some.inj h ▸ rfl
      · exact Option.some.inj h ▸ rfl
      · exact Option.some.inj h ▸ rfl
      · rw [C19_div]
        split at h <;> rename_i hb0 <;> simp only [hb0, ↓reduceIte] <;> exact Option.some.inj h ▸ rfl
      · split at h
        · rename_i hb
          exact Option.some.inj h ▸ C19_pow_inrange a b hb.1 (by omega)
        · contradiction
    · contradiction

example : powWrap 3 41 = wrap64 (3 ^ 41) := C19_pow_hom 3 41 (by decide)
example : powWrap 3 41 = -420491770248316829 := by decide +kernel
example : powWrap (-2) 63 = i64Min := by decide +kernel
example : applyOp .pow 2 64 = .ok 0 := by decide +kernel
example : applyOp .pow 2 (-1) = .ok 0 := by decide +kernel
example : applyOp .pow 3 (-1) = .ok (wrap64 (3 ^ 4294967295)) := by
  rw [C19_pow_negative 3 (-1) (by decide) (by decide)]; rfl
example : applyOp .pow 3 (2 ^ 32 + 2) = .ok 9 := by
  rw [C19_pow_huge 3 (2 ^ 32 + 2) 1 (by decide) (by decide)]; decide +kernel

def wTree2 : E Int := .bin .sub (.bin .mul (.bin .pow (.atom 3) (.atom 41)) (.atom 5)) (.bin .pow (.atom (-7)) (.bin .add (.atom 2) (.atom 30)))
example : ring4 wTree2 = true := by decide +kernel
example : leavesIn wTree2 = true := by decide +kernel
example : ring4 wTree = true := by decide +kernel
def wT : T := .bin .div (.bin .pow (.num 3) (.num 41)) (.bin .sub (.num 2) (.num 9))
example : specEval wT = some 60070252892616689 := by decide +kernel

end Cicada.C19
