import Cicada.Lemmas.Lit
import Cicada.Thm.C15
import Cicada.Lemmas.C15Sess
import Cicada.Thm.C15word
import Cicada.Thm.C14peg
/-!
# C15 / C14 — functions and `source` in the script-session model; function bodies in the interpreter model

`Model/ScriptSess.lean` tracks, per session: the function table, the `set -e` flag, the log of markers and the pending `exit`.
It has NO variables, aliases or working directory, and a call `.call f` carries NO arguments — the only thing a sourced file can
leave behind in it is function definitions (and markers).  Arguments live in the other model (`Model/ScriptRun.lean`:
`runLines sem args …`, `expandArgs args line` before every `run_command_line`), which in turn has no function table.  So `source`,
`exit` and the statuses are stated on `ScriptSess`, the arguments of a call and C14 on `ScriptRun`, and `C15_function_body_sess` puts
the two side by side where they overlap (straight-line bodies).  Every statement carries the model's fuel explicitly (one unit per
statement and per nesting level; `runMain` starts with 64).
`UniqueBody files fn b` (all definitions of `fn` in the session's files have the body `b`, e.g. it is defined once) is the guard of the
`source` theorems: without it only "is bound" holds, since a file sourced later may rebind the name.  `Reaches` is an input-only way to
say that a chain of `source` lines is executed.

Not stated, because the models lack it: `SStmt.call` has no argument list and `St` no positional parameters, so "`f a b` runs the body
with `$1` = a" cannot be stated in `ScriptSess`; function bodies there are statement lists, not text, and the model has no `if` / `for` /
`while`, so `semBlock` of a structured body has no counterpart in it; `ScriptRun` has no function table (`Sem.runLine` is opaque), so "a
line that is a call runs `runLines` on the body" is not in that model either; `C14_interpreter_refines` asks `expandArgs args l = l`, so
structured bodies with positional references are covered only when flat.
-/
namespace Cicada.C15
open Cicada.ScriptSess Cicada.C15.Sess

/-- every definition of `fn` standing in a file of the session has the body `b` (input-only; e.g. `fn` is defined once) -/
def UniqueBody (files : List (Str × List SStmt)) (fn : Str) (b : List SStmt) : Prop :=
  ∀ p ∈ files, ∀ b', SStmt.defn fn b' ∈ p.2 → b' = b

theorem UniqueBody.lastDef_eq {files : List (Str × List SStmt)} {fn : Str} {b : List SStmt} (hu : UniqueBody files fn b)
    {p : Str × List SStmt} (hp : p ∈ files) (b' : List SStmt) (h : lastDef fn p.2 = some b') : b' = b :=
  hu p hp b' (lastDef_mem h)

/-- under `UniqueBody` being bound to `b` is an invariant of every run: only the registration of a file's definitions
touches the table -/
theorem visible_invariant (cfg : Cfg) (files : List (Str × List SStmt)) (fn : Str) (b : List SStmt) (hu : UniqueBody files fn b) (F : Nat) :
    (∀ l st last, bodyOf st fn = some b → bodyOf (runStmts cfg files F l st last).1 fn = some b) ∧
    (∀ name st, bodyOf st fn = some b → bodyOf (runFile cfg files F name st).1 fn = some b) := by
  refine run_induction cfg files (fun st r => bodyOf st fn = some b → bodyOf r.1 fn = some b) (fun _ _ h => h) (fun _ _ _ h => h)
    (fun _ h => h) (fun _ _ h => h) (fun _ _ _ h1 _ h2 h => h2 (h1 h)) (fun _ _ _ h1 h => h1 h) ?_ F
  intro st p r hp hr h
  refine hr ?_
  rw [bodyOf_hoist, h]
  cases hl : Sess.lastDef fn p.2 with
  | none => rfl
  | some b' => rw [hu.lastDef_eq hp b' hl]; rfl

/-- **a visible function stays visible, with its body**, through any run of statements -/
theorem C15_visible_persists (cfg : Cfg) (files : List (Str × List SStmt)) (fn : Str) (b : List SStmt) (hu : UniqueBody files fn b)
    (F : Nat) (l : List SStmt) (st : St) (last : Nat) (h : bodyOf st fn = some b) :
    bodyOf (runStmts cfg files F l st last).1 fn = some b :=
  (visible_invariant cfg files fn b hu F).1 l st last h

theorem C15_visible_persists_file (cfg : Cfg) (files : List (Str × List SStmt)) (fn : Str) (b : List SStmt) (hu : UniqueBody files fn b)
    (F : Nat) (name : Str) (st : St) (h : bodyOf st fn = some b) :
    bodyOf (runFile cfg files F name st).1 fn = some b :=
  (visible_invariant cfg files fn b hu F).2 name st h

theorem visible_after_step (cfg : Cfg) (files : List (Str × List SStmt)) (fn : Str) (b : List SStmt) (hu : UniqueBody files fn b)
    (F : Nat) (s : SStmt) (rest : List SStmt) (st : St) (last : Nat) (h0 : st.exited = none)
    (hs : bodyOf (step cfg files F s st last).1 fn = some b) :
    bodyOf (runStmts cfg files (F + 1) (s :: rest) st last).1 fn = some b := by
  rw [runStmts_cons, if_neg (by simp [h0])]
  split
  · exact hs
  · exact C15_visible_persists cfg files fn b hu F rest _ _ hs

/-- **what a sourced file defines is in the table when the `source` returns** (whatever the file itself ran, sourced or
called in between, whether it ended by `exit`, by `set -e` or at its end; whatever was bound to the name before) -/
theorem C15_source_defines (cfg : Cfg) (files : List (Str × List SStmt)) (fn : Str) (b : List SStmt) (hu : UniqueBody files fn b)
    (F : Nat) (name nm : Str) (stmts : List SStmt) (st : St)
    (hfile : files.find? (·.1 = name) = some (nm, stmts)) (hdef : SStmt.defn fn b ∈ stmts) :
    bodyOf (runFile cfg files (F + 1) name st).1 fn = some b := by
  have hmem : (nm, stmts) ∈ files := List.mem_of_find?_eq_some hfile
  have hl : lastDef fn stmts = some b := by
    cases hld : Sess.lastDef fn stmts with
    | none => exact absurd hdef (lastDef_none hld b)
    | some b' => rw [hu.lastDef_eq hmem b' hld]
  have h0 : bodyOf { st with funcs := hoist st.funcs stmts } fn = some b := by rw [bodyOf_hoist, hl]; rfl
  rw [bodyOf_runFile cfg files F name nm stmts st fn hfile]
  exact C15_visible_persists cfg files fn b hu F (nondefs stmts) _ 0 h0


/-! ### `exit` at any depth -/

/-- **nothing after an `exit` runs**: if the run of `xs` ended with the shell exited (the `exit` may stand in `xs` itself, in a
function called from it or in a file sourced from it, at any depth), whatever follows `xs` is not run -/
theorem C15_exit_skips_rest (cfg : Cfg) (files : List (Str × List SStmt)) (F : Nat) (xs ys : List SStmt) (st : St) (last : Nat)
    (h : (runStmts cfg files F xs st last).1.exited.isSome = true) :
    runStmts cfg files F (xs ++ ys) st last = runStmts cfg files F xs st last := by
  by_cases hx : xs = []
  · subst hx
    rw [runStmts_nil] at h
    rw [List.nil_append, runStmts_nil, runStmts_exited _ _ _ _ _ _ h]
  · rw [runStmts_append cfg files xs hx, if_pos (by simp [stopped, h])]

/-- **`exit N` inside a function body or a sourced file ends the whole run with status `N`**: if what the statement `s`
starts (a function body, a sourced file, and whatever these call or source in turn; or `s` is the `exit` itself) reaches
`exit n`, the list holding `s` ends there — nothing of `rest` runs — with status `n`; so do the enclosing levels. -/
theorem C15_exit_in_function_or_source (cfg : Cfg) (files : List (Str × List SStmt)) (F : Nat) (s : SStmt) (rest : List SStmt)
    (st : St) (last n : Nat) (h0 : st.exited = none) (hx : (step cfg files F s st last).1.exited = some n) :
    runStmts cfg files (F + 1) (s :: rest) st last = ((step cfg files F s st last).1, n) := by
  have he : ¬ st.exited.isSome = true := by simp [h0]
  have hs : stopped (step cfg files F s st last) = true := by simp [stopped, hx]
  rw [runStmts_cons, if_neg he, if_pos hs]
  have h1 := runStmts_single cfg files F s st last h0
  have := (exit_status cfg files n (F + 1)).1 [s] st last h0 (by rw [h1]; exact hx)
  rw [h1] at this
  rw [← this]

/-- the session ends with the status given to `exit` (mod 256), whatever the depth it was reached at -/
theorem C15_exit_ends_session (cfg : Cfg) (files : List (Str × List SStmt)) (main : Str) (n : Nat)
    (hx : (runFile cfg files 64 main {}).1.exited = some n) :
    runMain cfg files main = (n % 256, (runFile cfg files 64 main {}).1.trace) := by
  simp only [runMain, hx]


/-! ### `source` at every nesting depth -/

/-- `Reaches files fn b k name`: sourcing `name` certainly gets to a definition of `fn` with body `b`, through a chain of
`source` lines each preceded (in its file) by succeeding commands only; `k` bounds the fuel needed -/
inductive Reaches (files : List (Str × List SStmt)) (fn : Str) (b : List SStmt) : Nat → Str → Prop
  | here (name nm : Str) (stmts : List SStmt) :
      files.find? (·.1 = name) = some (nm, stmts) → SStmt.defn fn b ∈ stmts → Reaches files fn b 1 name
  | via (name nm : Str) (stmts pre : List SStmt) (next : Str) (post : List SStmt) (k : Nat) :
      files.find? (·.1 = name) = some (nm, stmts) → nondefs stmts = pre ++ SStmt.source next :: post →
      pre.all okStage = true → Reaches files fn b k next → Reaches files fn b (k + pre.length + 2) name

/-- **a definition made by a sourced file, at any nesting depth of `source`, is in the table when the outermost `source` returns** -/
theorem C15_source_persists_nested (cfg : Cfg) (files : List (Str × List SStmt)) (fn : Str) (b : List SStmt) (hu : UniqueBody files fn b)
    (k : Nat) (name : Str) (hr : Reaches files fn b k name) :
    ∀ (F : Nat), k ≤ F → ∀ (st : St), st.exited = none → bodyOf (runFile cfg files F name st).1 fn = some b := by
  induction hr with
  | here name nm stmts hfile hdef =>
    intro F hF st _
    obtain ⟨f, rfl⟩ : ∃ f, F = f + 1 := ⟨F - 1, by omega⟩
    exact C15_source_defines cfg files fn b hu f name nm stmts st hfile hdef
  | via name nm stmts pre next post k hfile hsplit hpre _ ih =>
    intro F hF st h0
    obtain ⟨g, rfl⟩ : ∃ g, F = pre.length + (g + 1) + 1 := ⟨F - pre.length - 2, by omega⟩
    rw [bodyOf_runFile cfg files _ name nm stmts st fn hfile, hsplit, run_okStages cfg files pre hpre (g + 1) _
      { st with funcs := hoist st.funcs stmts } h0]
    refine visible_after_step cfg files fn b hu g _ post _ 0 ?_ ?_
    · exact h0
    · rw [bodyOf_step_source]
      exact ih g (by omega) _ h0

/-- **the status of `source f` is the status of the run of the lines of `f`** (1 if there is no such file) -/
theorem C15_source_status (cfg : Cfg) (files : List (Str × List SStmt)) (F : Nat) (name : Str) (st : St) (last : Nat) :
    (step cfg files (F + 1) (.source name) st last).2 =
      match files.find? (·.1 = name) with
      | some (_, stmts) => (runStmts cfg files F (nondefs stmts) { st with funcs := hoist st.funcs stmts } 0).2
      | none => 1 := by
  simp only [step, runFile_succ]
  cases files.find? (·.1 = name) with
  | none => rfl
  | some p => rfl

/-- **the status of a call is the status of the run of the body** (127 if the name is not bound) -/
theorem C15_function_call_status (cfg : Cfg) (files : List (Str × List SStmt)) (F : Nat) (fn : Str) (st : St) (last : Nat) :
    (step cfg files F (.call fn) st last).2 =
      match bodyOf st fn with
      | some body => (runStmts cfg files F body st 0).2
      | none => 127 := by
  simp only [step, bodyOf]
  split
  · rename_i g body h; rw [h]; rfl
  · rename_i h; rw [h]; rfl

/-- **the status of a run is the status of the last statement executed**: either nothing was executed (empty list, no fuel,
shell already exited) and the status is the one handed in, or the list splits into `pre` (all executed, none of them ended
the run), `s` (executed: its result is the result of the run) and `post` (not executed: there is none, or `s` ended the run by
`exit` / a failure under `set -e`, or the model's fuel ended: `F = pre.length + 1`; the fuel is a parameter of the statement,
so this case cannot be excluded, only named) -/
theorem C15_status_last_executed (cfg : Cfg) (files : List (Str × List SStmt)) : ∀ (l : List SStmt) (F : Nat) (st : St) (last : Nat),
    ((l = [] ∨ F = 0 ∨ st.exited.isSome = true) ∧ runStmts cfg files F l st last = (st, last)) ∨
    ∃ pre s post stp lp, l = pre ++ s :: post ∧ pre.length < F ∧ runStmts cfg files F pre st last = (stp, lp) ∧ stp.exited = none ∧
      (pre = [] ∨ stopped (stp, lp) = false) ∧
      runStmts cfg files F l st last = step cfg files (F - pre.length - 1) s stp lp ∧
      (post = [] ∨ stopped (step cfg files (F - pre.length - 1) s stp lp) = true ∨ F = pre.length + 1) := by
  intro l
  induction l with
  | nil => intro F st last; exact .inl ⟨.inl rfl, runStmts_nil ..⟩
  | cons x l' ih =>
    intro F st last
    cases F with
    | zero => exact .inl ⟨.inr (.inl rfl), runStmts_zero ..⟩
    | succ f =>
      by_cases he : st.exited.isSome = true
      · exact .inl ⟨.inr (.inr he), runStmts_exited _ _ _ _ _ _ he⟩
      · have h0 : st.exited = none := by simpa using he
        right
        by_cases hs : stopped (step cfg files f x st last) = true
        · refine ⟨[], x, l', st, last, rfl, by simp, runStmts_nil .., h0, .inl rfl, ?_, .inr (.inl (by simpa using hs))⟩
          rw [runStmts_cons, if_neg he, if_pos hs]; simp
        · have hrun : ∀ rest, runStmts cfg files (f + 1) (x :: rest) st last =
              runStmts cfg files f rest (step cfg files f x st last).1 (step cfg files f x st last).2 := by
            intro rest; rw [runStmts_cons, if_neg he, if_neg hs]
          rcases ih f (step cfg files f x st last).1 (step cfg files f x st last).2 with ⟨hc, hr⟩ | ⟨pre, s, post, stp, lp, hl, hlen, hpre, hex, hns, hres, hpost⟩
          · refine ⟨[], x, l', st, last, rfl, by simp, runStmts_nil .., h0, .inl rfl, ?_, ?_⟩
            · rw [hrun, hr]; simp
            · rcases hc with hc | hc | hc
              · exact .inl hc
              · exact .inr (.inr (by simp [hc]))
              · exfalso; apply hs; simp [stopped, hc]
          · refine ⟨x :: pre, s, post, stp, lp, by rw [hl]; rfl, by simp; omega, by rw [hrun, hpre], hex, .inr ?_, ?_, ?_⟩
            · rcases hns with hp | hp
              · subst hp
                rw [runStmts_nil] at hpre
                rw [← hpre]
                simpa using hs
              · exact hp
            · rw [hrun, hres]
              simp [Nat.add_sub_add_right]
            · simp only [List.length_cons, Nat.add_sub_add_right]
              rcases hpost with hp | hp | hp
              · exact .inl hp
              · exact .inr (.inl hp)
              · exact .inr (.inr (by omega))

/-- the last statement of a list whose other statements did not end the run gives the status -/
theorem C15_status_last_stmt (cfg : Cfg) (files : List (Str × List SStmt)) (F : Nat) (xs : List SStmt) (s : SStmt) (st : St) (last : Nat)
    (hF : xs.length < F) (h0 : st.exited = none) (hns : xs = [] ∨ stopped (runStmts cfg files F xs st last) = false) :
    runStmts cfg files F (xs ++ [s]) st last =
      step cfg files (F - xs.length - 1) s (runStmts cfg files F xs st last).1 (runStmts cfg files F xs st last).2 := by
  obtain ⟨g, hg⟩ : ∃ g, F - xs.length = g + 1 := ⟨F - xs.length - 1, by omega⟩
  by_cases hx : xs = []
  · subst hx
    simp only [List.length_nil, Nat.sub_zero] at hg
    rw [List.nil_append, runStmts_nil, hg, runStmts_single _ _ _ _ _ _ h0]; simp
  · have hns' : stopped (runStmts cfg files F xs st last) = false := by
      rcases hns with h | h
      · exact absurd h hx
      · exact h
    rw [runStmts_append cfg files xs hx, hns']
    simp only [Bool.false_eq_true, ↓reduceIte]
    have he : (runStmts cfg files F xs st last).1.exited = none := by
      simp only [stopped, Bool.or_eq_false_iff] at hns'
      simpa using hns'.1
    rw [hg, runStmts_single _ _ _ _ _ _ he]
    simp

/-- **`source`: what the file defined is visible to what follows the `source` line**, whatever the nesting depth of the
`source` that made the definition (`Reaches`) -/
theorem C15_source_persists (cfg : Cfg) (files : List (Str × List SStmt)) (fn : Str) (b : List SStmt) (hu : UniqueBody files fn b)
    (k : Nat) (name : Str) (hr : Reaches files fn b k name) (F : Nat) (hF : k ≤ F) (rest : List SStmt) (st : St) (last : Nat)
    (h0 : st.exited = none) :
    bodyOf (step cfg files F (.source name) st last).1 fn = some b ∧
    runStmts cfg files (F + 1) (.source name :: rest) st last =
      (if stopped (step cfg files F (.source name) st last) then step cfg files F (.source name) st last
       else runStmts cfg files F rest (step cfg files F (.source name) st last).1 (step cfg files F (.source name) st last).2) ∧
    bodyOf (runStmts cfg files (F + 1) (.source name :: rest) st last).1 fn = some b := by
  have h1 : bodyOf (step cfg files F (.source name) st last).1 fn = some b := by
    rw [bodyOf_step_source]
    exact C15_source_persists_nested cfg files fn b hu k name hr F hF st h0
  refine ⟨h1, ?_, visible_after_step cfg files fn b hu F _ rest st last h0 h1⟩
  rw [runStmts_cons]
  simp [h0]

/-- `source name; fn; …`: the call that follows the `source` runs the body `b` the sourced file (or one it sourced) defined -/
theorem C15_source_then_call (cfg : Cfg) (files : List (Str × List SStmt)) (fn : Str) (b : List SStmt) (hu : UniqueBody files fn b)
    (k : Nat) (name : Str) (hr : Reaches files fn b k name) (F : Nat) (hF : k ≤ F + 1) (rest : List SStmt) (st : St) (last : Nat)
    (h0 : st.exited = none) (hns : stopped (step cfg files (F + 1) (.source name) st last) = false) :
    runStmts cfg files (F + 2) (.source name :: .call fn :: rest) st last =
      runStmts cfg files (F + 1) (.call fn :: rest) (step cfg files (F + 1) (.source name) st last).1 (step cfg files (F + 1) (.source name) st last).2 ∧
    step cfg files F (.call fn) (step cfg files (F + 1) (.source name) st last).1 (step cfg files (F + 1) (.source name) st last).2 =
      (if cfg.clearAfterCall then { (runStmts cfg files F b (step cfg files (F + 1) (.source name) st last).1 0).1 with sete := false }
        else (runStmts cfg files F b (step cfg files (F + 1) (.source name) st last).1 0).1,
       (runStmts cfg files F b (step cfg files (F + 1) (.source name) st last).1 0).2) := by
  obtain ⟨h1, h2, _⟩ := C15_source_persists cfg files fn b hu k name hr (F + 1) hF (.call fn :: rest) st last h0
  refine ⟨?_, step_call cfg files F fn b _ _ h1⟩
  rw [h2, hns]; simp

/-! ### `exit` three levels down: main script → sourced file → function body -/

theorem exit_after_okStages (cfg : Cfg) (files : List (Str × List SStmt)) (pre rest : List SStmt) (s : SStmt) (n G : Nat)
    (hpre : pre.all okStage = true) (st : St) (h0 : st.exited = none)
    (hx : (step cfg files G s { st with trace := st.trace ++ markers pre } 0).1.exited = some n) :
    runStmts cfg files (pre.length + (G + 1)) (pre ++ s :: rest) st 0 =
      ((step cfg files G s { st with trace := st.trace ++ markers pre } 0).1, n) := by
  rw [run_okStages cfg files pre hpre (G + 1) _ st h0]
  exact C15_exit_in_function_or_source cfg files G s rest _ 0 n h0 hx

/-- **`exit n` in a function called from a sourced file ends the session**: the main script sources `a` after the succeeding
commands `preM`, `a` calls `f` after `preA`, the body of `f` reaches `exit n` after `preF`.  Nothing of `postF`, `postA`, `postM`
(arbitrary statements) runs; the session's status is `n` (mod 256) -/
theorem C15_exit_nested (cfg : Cfg) (files : List (Str × List SStmt)) (m nmM a nmA f : Str)
    (stmtsM stmtsA preM postM preA postA preF postF : List SStmt) (n : Nat)
    (hM : files.find? (·.1 = m) = some (nmM, stmtsM)) (hMs : nondefs stmtsM = preM ++ .source a :: postM)
    (hA : files.find? (·.1 = a) = some (nmA, stmtsA)) (hAs : nondefs stmtsA = preA ++ .call f :: postA)
    (hf : lastDef f stmtsA = some (preF ++ .exit n :: postF))
    (hpM : preM.all okStage = true) (hpA : preA.all okStage = true) (hpF : preF.all okStage = true)
    (hlen : preM.length + preA.length + preF.length ≤ 59) :
    runMain cfg files m = (n % 256, markers preM ++ markers preA ++ markers preF) := by
  -- of the 64 units of fuel one goes to each file and call entered and one to each statement run; `G` are left at the `exit`
  obtain ⟨G, hG⟩ : ∃ G, 63 = preM.length + (preA.length + (preF.length + (G + 1) + 1) + 1 + 1) :=
    ⟨59 - preM.length - preA.length - preF.length, by omega⟩
  -- the state in which `a` is sourced
  generalize hsM : ({ funcs := hoist [] stmtsM, trace := [] ++ markers preM } : St) = stM
  have h0M : stM.exited = none := by rw [← hsM]
  have hb : bodyOf { stM with funcs := hoist stM.funcs stmtsA } f = some (preF ++ .exit n :: postF) := by
    rw [bodyOf_hoist, hf]; rfl
  -- the body of `f` ends at its `exit n` …
  obtain ⟨y, ec⟩ := step_call_sete cfg files (preF.length + (G + 1)) f _
    { stM with funcs := hoist stM.funcs stmtsA, trace := stM.trace ++ markers preA } 0 hb
  rw [exit_after_okStages cfg files preF postF (.exit n) n G hpF
    { stM with funcs := hoist stM.funcs stmtsA, trace := stM.trace ++ markers preA } h0M rfl] at ec
  -- … so the lines of `a` end at the call …
  obtain ⟨x, ea⟩ := runFile_sete cfg files (preA.length + (preF.length + (G + 1) + 1)) a nmA stmtsA stM hA
  rw [hAs, exit_after_okStages cfg files preA postA (.call f) n _ hpA { stM with funcs := hoist stM.funcs stmtsA } h0M (by rw [ec]; rfl), ec] at ea
  -- … and those of `m` at the `source`
  obtain ⟨z, es⟩ := step_source_sete cfg files (preA.length + (preF.length + (G + 1) + 1) + 1) a stM 0
  rw [ea] at es
  have hr := exit_after_okStages cfg files preM postM (.source a) n _ hpM { funcs := hoist [] stmtsM } rfl (by rw [hsM, es]; rfl)
  rw [← hG, ← hMs, hsM, es] at hr
  obtain ⟨w, em⟩ := runFile_sete cfg files 63 m nmM stmtsM {} hM
  rw [hr] at em
  rw [C15_exit_ends_session cfg files m n (by rw [em]; rfl), em, ← hsM]
  simp [step]

/-! ### non-vacuity -/

/-- main: `1; source a; f; 9` — a: `2; source b; 3` — b: `function f { 7 (status 4) }` -/
def exFiles : List (Str × List SStmt) :=
  [("m".toList, [.stage 1 0, .source "a".toList, .call "f".toList, .stage 9 0]),
   ("a".toList, [.stage 2 0, .source "b".toList, .stage 3 0]),
   ("b".toList, [.defn "f".toList [.stage 7 4]])]

theorem exFiles_unique : UniqueBody exFiles "f".toList [.stage 7 4] := by
  intro p hp b' hb'
  simp only [exFiles, List.mem_cons, List.mem_nil_iff, or_false] at hp
  rcases hp with rfl | rfl | rfl <;> simp at hb'
  exact hb'

theorem exFiles_reaches : Reaches exFiles "f".toList [.stage 7 4] 4 "a".toList :=
  .via "a".toList "a".toList [.stage 2 0, .source "b".toList, .stage 3 0] [.stage 2 0] "b".toList [.stage 3 0] 1 rfl rfl rfl
    (.here "b".toList "b".toList [.defn "f".toList [.stage 7 4]] rfl (by simp))

/-- the hypotheses of `C15_source_persists` hold for the `source a` line of `m` (the definition is made two levels down) … -/
example (cfg : Cfg) (st : St) (last : Nat) (h0 : st.exited = none) :
    bodyOf (step cfg exFiles 10 (.source "a".toList) st last).1 "f".toList = some [.stage 7 4] :=
  (C15_source_persists cfg exFiles _ _ exFiles_unique 4 _ exFiles_reaches 10 (by omega) [] st last h0).1

/-- … and the session runs the body after the `source`, its status (4) being the status of the call; the last command gives the session's -/
example : runMain {} exFiles "m".toList = (0, [(1, 0), (2, 0), (3, 0), (7, 4), (9, 0)]) := by decide +kernel

example : runMain {} [("m".toList, [.source "a".toList]), ("a".toList, [.stage 1 0, .stage 2 5])] "m".toList = (5, [(1, 0), (2, 5)]) := by decide +kernel

example : runMain {} [("m".toList, [.defn "f".toList [.stage 1 0, .stage 2 5], .call "f".toList])] "m".toList = (5, [(1, 0), (2, 5)]) := by decide +kernel

/-- `C15_exit_nested` on a concrete session: `1; source a; 9` — a: `function f { 3; exit 300; 4 }; 2; f; 8` -/
example : runMain {} [("m".toList, [.stage 1 0, .source "a".toList, .stage 9 0]),
      ("a".toList, [.defn "f".toList [.stage 3 0, .exit 300, .stage 4 0], .stage 2 0, .call "f".toList, .stage 8 0])] "m".toList
    = (44, [(1, 0), (2, 0), (3, 0)]) :=
  C15_exit_nested {} _ "m".toList "m".toList "a".toList "a".toList "f".toList
    [.stage 1 0, .source "a".toList, .stage 9 0]
    [.defn "f".toList [.stage 3 0, .exit 300, .stage 4 0], .stage 2 0, .call "f".toList, .stage 8 0]
    [.stage 1 0] [.stage 9 0] [.stage 2 0] [.stage 8 0] [.stage 3 0] [.stage 4 0] 300
    rfl rfl rfl rfl rfl rfl rfl rfl (by decide)

/-- `C15_status_last_executed`, second alternative: under `set -e` the failing command is the last one executed -/
example : runStmts {} [] 9 [.sete, .stage 1 0, .stage 2 3, .stage 4 0] {} 0 =
    step {} [] 6 (.stage 2 3) (runStmts {} [] 9 [.sete, .stage 1 0] {} 0).1 (runStmts {} [] 9 [.sete, .stage 1 0] {} 0).2 := by rfl

end Cicada.C15

/-! ## function bodies in the interpreter model (`Model/ScriptRun.lean`) -/
namespace Cicada.C15
open Cicada Cicada.Locust Cicada.C14

/-- the argument list `run_lines` gets for a call `fn a b …` (`try_run_func` passes `["cicada", fn, a, b, …]`, and
`run_exp` drops the first entry before `expand_args`): `$0` is the function's name -/
def callArgs (fn : Str) (as : List Str) : List Str := fn :: as

/-- a straight-line body, the way `run_exp` (scripting.rs:392-431, the `CMD` case) goes through it: every line is handed to
`run_command_line` after the positional parameters have been put in; the status kept is that of the last line that ran
something (`cr_list.last()`: a line that runs nothing adds no result, hence `Option Int`); under `set -e` (`exit_on_error`) the
first failing line is the last one -/
def foldLines {σ} (sem : Sem σ) (args : List Str) : List Str → σ → Option Int → σ × Option Int
  | [], st, last => (st, last)
  | l :: ls, st, last =>
    let r := sem.runLine st (expandArgs args l)
    let last' := match r.2 with
      | some x => some x
      | none => last
    match last' with
    | some s => if s ≠ 0 ∧ sem.exitOnError r.1 then (r.1, last') else foldLines sem args ls r.1 last'
    | none => foldLines sem args ls r.1 last'

/-- a line of a straight-line body: plain (no line break, visible first and last character), not starting like a keyword
of the grammar, not `break` / `continue` -/
def bodyLineOk (l : Str) : Bool := plainB l && notKwB l && (l != "break".toList) && (l != "continue".toList)

theorem runExp_flat {σ} (sem : Sem σ) (args : List Str) : ∀ (ls : List Str), (∀ l ∈ ls, bodyLineOk l = true) →
    ∀ (f : Nat) (inLoop : Bool) (st : σ) (last : Option Int), ls.length < f →
    runExp sem args f (ls.map (fun l => PT.node "CMD" (l ++ ['\n']) [])) inLoop st last =
      .ok { st := (foldLines sem args ls st last).1, last := (foldLines sem args ls st last).2 } := by
  obtain ⟨rl, sv, w, eoe⟩ := sem
  intro ls
  induction ls with
  | nil =>
    intro _ f inLoop st last hf
    obtain ⟨g, rfl⟩ : ∃ g, f = g + 1 := ⟨f - 1, by simp at hf; omega⟩
    simp [runExp, foldLines]
  | cons l ls ih =>
    intro hok f inLoop st last hf
    obtain ⟨g, rfl⟩ : ∃ g, f = g + 1 := ⟨f - 1, by simp at hf; omega⟩
    have hl := hok l (by simp)
    simp only [bodyLineOk, Bool.and_eq_true, bne_iff_ne, ne_eq] at hl
    obtain ⟨⟨⟨hp, _⟩, hb⟩, hc⟩ := hl
    have hplain := plain_of_plainB hp
    have ih' := ih (fun x hx => hok x (List.mem_cons_of_mem _ hx)) g inLoop
    have hlen : ls.length < g := by simp at hf; omega
    simp only [List.map_cons, runExp, PT.text, PT.rule, hplain.trim_line, hplain.ne_nil, hb, hc, ↓reduceIte, foldLines]
    generalize rl st (expandArgs args l) = r
    obtain ⟨r1, r2⟩ := r
    cases r2 <;> cases last <;> simp only [ih' _ _ hlen]
    all_goals split <;> rfl

/-- **a call `fn a b …` of a function with a straight-line body**: the body is no syntax error, and every line is handed to
`run_command_line`, in order, after `expandArgs (fn :: a :: b …)`; the status kept is that of the last line that ran something -/
theorem C15_function_body_flat {σ} (sem : Sem σ) (fn : Str) (as : List Str) (sm : Bool) (ls : List Str)
    (hok : ∀ l ∈ ls, bodyLineOk l = true) (F : Nat) (hF : ls.length < F) (st : σ) :
    runLines sem (callArgs fn as) F (C14.render sm (C14.flat ls)) st =
      .ok (some { st := (foldLines sem (fn :: as) ls st none).1, last := (foldLines sem (fn :: as) ls st none).2 }) := by
  have hp : ∀ l ∈ ls, plainB l = true ∧ notKwB l = true := by
    intro l hl
    have := hok l hl
    simp only [bodyLineOk, Bool.and_eq_true] at this
    exact ⟨this.1.1.1, this.1.1.2⟩
  unfold runLines
  rw [C14_parse_render_flat sm ls hp]
  simp only [PT.kids, callArgs]
  rw [runExp_flat sem (fn :: as) ls hok F false st none hF]
  rfl

/-- **`$0` is the function's name, `$1`, `$2` the first and second argument, `$@` all arguments, a missing one is empty** -/
theorem C15_function_args (fn a b : Str) (rest : List Str) :
    argValue (callArgs fn (a :: b :: rest)) "0".toList = fn ∧
    argValue (callArgs fn (a :: b :: rest)) "1".toList = a ∧
    argValue (callArgs fn (a :: b :: rest)) "2".toList = b ∧
    argValue (callArgs fn (a :: b :: rest)) "@".toList = joinWith [' '] (a :: b :: rest) ∧
    argValue (callArgs fn [a, b]) "3".toList = [] := by
  have h0 : parseUsize "0".toList = some 0 := by decide +kernel
  have h1 : parseUsize "1".toList = some 1 := by decide +kernel
  have h2 : parseUsize "2".toList = some 2 := by decide +kernel
  have h3 : parseUsize "3".toList = some 3 := by decide +kernel
  have hl : 2 < (callArgs fn (a :: b :: rest)).length := by simp only [callArgs, List.length_cons]; omega
  exact ⟨C15_index _ _ 0 h0 (by omega) (by decide), C15_index _ _ 1 h1 (by omega) (by decide),
    C15_index _ _ 2 h2 hl (by decide), C15_all _, C15_missing_is_empty _ _ 3 h3 (Nat.le_refl 3) (by decide)⟩

/-- a body line whose tokens are well-formed words: what `run_command_line` receives in a call `fn a b …` is the line
re-rendered with every `$n` / `${n}` / `$@` of its unquoted and double-quoted tokens replaced (`C15_tokens_full`) -/
theorem C15_function_line (fn : Str) (as : List Str) (l : Str) (ts : List (Str × List WSeg))
    (hparse : parseLine l = ts.map (fun x => (x.1, wrender x.2))) (hok : ∀ x ∈ ts, wwordOk x.2 = true) :
    expandArgs (callArgs fn as) l = tokensToLine (ts.map (specTok (callArgs fn as))) := by
  unfold expandArgs
  rw [hparse, C15_tokens_full _ ts hok]

example : expandArgs (callArgs "f".toList ["a b".toList, "c".toList]) "echo $1-$2 \"$0\" '$1' ${3}x $@".toList
    = "echo a b-c \"f\" '$1' x a b c".toList := by
  lit_lists
  decide +kernel

theorem foldLines_cons_noE {σ} (sem : Sem σ) (args : List Str) (hE : ∀ s, sem.exitOnError s = false) (l : Str) (ls : List Str)
    (st : σ) (last : Option Int) :
    foldLines sem args (l :: ls) st last =
      foldLines sem args ls (sem.runLine st (expandArgs args l)).1 ((sem.runLine st (expandArgs args l)).2.or last) := by
  simp only [foldLines, hE]
  cases (sem.runLine st (expandArgs args l)).2 with
  | none => cases last <;> simp
  | some x => simp

/-- **the status of a call is the status of the last line of the body that ran something** (straight-line body, no `set -e`):
after the last line `l` the status is `l`'s if `l` ran a command, else the one before -/
theorem C15_function_status_flat {σ} (sem : Sem σ) (args : List Str) (hE : ∀ s, sem.exitOnError s = false) (ls : List Str) (l : Str) :
    ∀ (st : σ) (last : Option Int),
    foldLines sem args (ls ++ [l]) st last =
      ((sem.runLine (foldLines sem args ls st last).1 (expandArgs args l)).1,
       (sem.runLine (foldLines sem args ls st last).1 (expandArgs args l)).2.or (foldLines sem args ls st last).2) := by
  induction ls with
  | nil => intro st last; rw [List.nil_append, foldLines_cons_noE sem args hE]; rfl
  | cons x xs ih =>
    intro st last
    rw [List.cons_append, foldLines_cons_noE sem args hE, foldLines_cons_noE sem args hE, ih]

/-- under `set -e` the first failing line ends the body, with its status -/
theorem C15_function_sete_flat {σ} (sem : Sem σ) (args : List Str) (l : Str) (ls : List Str) (st : σ) (last : Option Int) (s : Int)
    (hr : (sem.runLine st (expandArgs args l)).2 = some s) (hs : s ≠ 0)
    (hE : sem.exitOnError (sem.runLine st (expandArgs args l)).1 = true) :
    foldLines sem args (l :: ls) st last = ((sem.runLine st (expandArgs args l)).1, some s) := by
  simp [foldLines, hr, hs, hE]

theorem foldLines_semBlock {σ} (sem : Sem σ) (args : List Str) (hE : ∀ s, sem.exitOnError s = false) : ∀ (ls : List Str) (st : σ) (last : Option Int),
    semBlock sem (ls.length + 1) (C14.flat (ls.map (expandArgs args))) false st = .ok ((foldLines sem args ls st last).1, .normal) := by
  intro ls
  induction ls with
  | nil => intro st last; rfl
  | cons l ls ih =>
    intro st last
    rw [foldLines_cons_noE sem args hE]
    simp only [List.map_cons, C14.flat, List.length_cons, semBlock]
    exact ih _ _

/-! ### non-vacuity -/

/-- a `Sem` for the examples: the state is the log of the lines received; a line starting with `f` fails with 3 -/
def logSem : Sem (List Str) where
  runLine st l := (st ++ [l], some (if l.head? = some 'f' then 3 else 0))
  setVar st _ _ := st
  words _ _ := []
  exitOnError _ := false

example : bodyLineOk "echo $1 $2".toList = true ∧ bodyLineOk "false $0".toList = true ∧ bodyLineOk "fi".toList = false ∧
    bodyLineOk "break".toList = false := by
  lit_lists
  decide +kernel

/-- `function f { echo $1 $2 ⏎ false $0 }` called as `f x y`: the lines received and the status -/
example : runLines logSem (callArgs "f".toList ["x".toList, "y".toList]) 5 (C14.render false (C14.flat ["echo $1 $2".toList, "false $0".toList])) [] =
    .ok (some { st := ["echo x y".toList, "false f".toList], last := some 3 }) := by
  rw [C15_function_body_flat logSem _ _ false _ (by decide +kernel) 5 (by decide)]
  have : foldLines logSem ["f".toList, "x".toList, "y".toList] ["echo $1 $2".toList, "false $0".toList] [] none =
      (["echo x y".toList, "false f".toList], some 3) := by
    lit_lists
    decide +kernel
  rw [this]

end Cicada.C15

namespace Cicada.C14
open Cicada Cicada.Locust

/-- **a function whose body is the canonical text of an AST executes the structured semantics of that AST**: `run_lines`
on `render sm b` with the argument list of a call `fn a b …` is no syntax error and ends in the state `semBlock b` prescribes
(`set -e` off).  `okAst (fn :: as) b` asks the lines and conditions of `b` to hold no positional reference that the call
would change (for straight-line bodies WITH such references: `C14_function_body_flat_args`) -/
theorem C14_function_body_refines {σ} (sem : Sem σ) (fn : Str) (as : List Str) (sm : Bool) (hE : ∀ s, sem.exitOnError s = false)
    (b : Block) (hok : okAst (C15.callArgs fn as) b = true) (F : Nat) (st : σ) :
    runLines sem (C15.callArgs fn as) F (render sm b) st ≠ .ok none ∧
    ∀ r, runLines sem (C15.callArgs fn as) F (render sm b) st = .ok (some r) → ∃ g fl, semBlock sem g b false st = .ok (r.st, fl) :=
  C14_script_end_to_end sem sm (C15.callArgs fn as) hE b hok F st

/-- a straight-line body with positional references, called as `fn a b …`: the run ends, in the state the structured
semantics gives for the body with the arguments put in -/
theorem C14_function_body_flat_args {σ} (sem : Sem σ) (fn : Str) (as : List Str) (sm : Bool) (hE : ∀ s, sem.exitOnError s = false)
    (ls : List Str) (hok : ∀ l ∈ ls, C15.bodyLineOk l = true) (F : Nat) (hF : ls.length < F) (st : σ) :
    ∃ r, runLines sem (C15.callArgs fn as) F (render sm (flat ls)) st = .ok (some r) ∧
      semBlock sem (ls.length + 1) (flat (ls.map (expandArgs (C15.callArgs fn as)))) false st = .ok (r.st, .normal) := by
  refine ⟨_, C15.C15_function_body_flat sem fn as sm ls hok F hF st, ?_⟩
  exact C15.foldLines_semBlock sem _ hE ls st none

example : okAst (C15.callArgs "f".toList ["a".toList]) exSmall = true := by decide +kernel

end Cicada.C14

/-! ## the two models side by side: straight-line bodies -/
namespace Cicada.C15
open Cicada Cicada.ScriptSess Cicada.C15.Sess

/-- a statement of the session model that is one plain line for the interpreter: a command, `set -e`, `exit n` -/
def simple : SStmt → Bool
  | .stage _ _ => true
  | .sete => true
  | .exit _ => true
  | _ => false

/-- the session state as a state of the interpreter model: a line is decoded (`dec`) into a statement of the session model and
does what `step` does for it WITH FUEL 0: right for the `simple` statements (a command, `set -e`, `exit`), which start no run; a
decoded `.call` / `.source` would run nothing, so the comparison below is restricted to `simple`.  Once the shell has exited
nothing runs; `exit_on_error` is the `set -e` flag -/
def sessSem (cfg : Cfg) (files : List (Str × List SStmt)) (dec : Str → Option SStmt) : Sem St where
  runLine st l :=
    if st.exited.isSome then (st, none) else
    match dec l with
    | some s => ((step cfg files 0 s st 0).1, some ((step cfg files 0 s st 0).2 : Int))
    | none => (st, none)
  setVar st _ _ := st
  words _ _ := []
  exitOnError st := st.sete

theorem step_simple (cfg : Cfg) (files : List (Str × List SStmt)) (s : SStmt) (hs : simple s = true) (F : Nat) (st : St) (last : Nat) :
    step cfg files F s st last = step cfg files 0 s st 0 := by
  cases s <;> simp [simple] at hs <;> rfl

theorem sessSem_runLine (cfg : Cfg) (files : List (Str × List SStmt)) (dec : Str → Option SStmt) (st : St) (l : Str) (s : SStmt)
    (h0 : st.exited = none) (hd : dec l = some s) :
    (sessSem cfg files dec).runLine st l = ((step cfg files 0 s st 0).1, some ((step cfg files 0 s st 0).2 : Int)) := by
  simp only [sessSem, h0, hd]; rfl

theorem foldLines_exited (cfg : Cfg) (files : List (Str × List SStmt)) (dec : Str → Option SStmt) (args : List Str) :
    ∀ (ls : List Str) (st : St) (last : Nat), st.exited.isSome = true →
    foldLines (sessSem cfg files dec) args ls st (some (last : Int)) = (st, some (last : Int)) := by
  intro ls
  induction ls with
  | nil => intro st last _; rfl
  | cons l ls ih =>
    intro st last he
    simp only [foldLines, sessSem, he, ↓reduceIte]
    split
    · rfl
    · exact ih st last he

/-- **the two models agree on straight-line bodies** of simple statements: same final state, same status — `set -e` and
`exit` included -/
theorem sess_refines_interp (cfg : Cfg) (files : List (Str × List SStmt)) (dec : Str → Option SStmt) (args : List Str) :
    ∀ (ps : List (Str × SStmt)), (∀ p ∈ ps, dec (expandArgs args p.1) = some p.2 ∧ simple p.2 = true) →
    ∀ (F : Nat) (st : St) (last : Nat), ps.length ≤ F →
    foldLines (sessSem cfg files dec) args (ps.map (·.1)) st (some (last : Int)) =
      ((runStmts cfg files F (ps.map (·.2)) st last).1, some ((runStmts cfg files F (ps.map (·.2)) st last).2 : Int)) := by
  intro ps
  induction ps with
  | nil => intro _ F st last _; simp only [List.map_nil, runStmts_nil]; rfl
  | cons p ps ih =>
    intro hall F st last hF
    obtain ⟨l, s⟩ := p
    have hd : dec (expandArgs args l) = some s ∧ simple s = true := hall (l, s) (by simp)
    have ih := ih (fun q hq => hall q (List.mem_cons_of_mem _ hq))
    obtain ⟨f, rfl⟩ : ∃ f, F = f + 1 := ⟨F - 1, by simp at hF; omega⟩
    simp only [List.map_cons]
    by_cases he : st.exited.isSome = true
    · rw [foldLines_exited cfg files dec args _ st last he, runStmts_exited _ _ _ _ _ _ he]
    · rw [runStmts_cons, if_neg he, step_simple cfg files s hd.2 f st last]
      simp only [foldLines, sessSem_runLine cfg files dec st _ s (by simpa using he) hd.1]
      generalize step cfg files 0 s st 0 = r
      rw [ih f r.1 r.2 (by simp at hF; omega)]
      -- the interpreter stops on a failure under `set -e`; on an `exit` it goes on, and every later line does nothing
      by_cases hx : r.1.exited.isSome = true
      · rw [runStmts_exited _ _ _ _ _ _ hx, show stopped r = true by simp [stopped, hx]]
        simp
      · have hs : stopped r = true ↔ ((r.2 : Int) ≠ 0 ∧ (sessSem cfg files dec).exitOnError r.1 = true) := by
          simp [stopped, hx, sessSem]
        simp only [hs]
        split <;> rfl

/-- **a call in the interpreter model = a call in the session model** (straight-line body of simple statements).
`ps ≠ []`: `run_lines` starts with no status, `runStmts` with status 0; they agree as soon as one line has run. -/
theorem C15_function_body_sess (cfg : Cfg) (files : List (Str × List SStmt)) (dec : Str → Option SStmt) (fn : Str) (as : List Str)
    (sm : Bool) (ps : List (Str × SStmt)) (hne : ps ≠ [])
    (hall : ∀ p ∈ ps, dec (expandArgs (callArgs fn as) p.1) = some p.2 ∧ simple p.2 = true)
    (hok : ∀ p ∈ ps, bodyLineOk p.1 = true) (F : Nat) (hF : ps.length < F) (st : St) (h0 : st.exited = none) :
    runLines (sessSem cfg files dec) (callArgs fn as) F (C14.render sm (C14.flat (ps.map (·.1)))) st =
      .ok (some { st := (runStmts cfg files F (ps.map (·.2)) st 0).1, last := some ((runStmts cfg files F (ps.map (·.2)) st 0).2 : Int) }) := by
  rw [C15_function_body_flat _ fn as sm _ (by simpa using hok) F (by simpa using hF) st]
  have hnone : foldLines (sessSem cfg files dec) (fn :: as) (ps.map (·.1)) st none =
      foldLines (sessSem cfg files dec) (fn :: as) (ps.map (·.1)) st (some ((0 : Nat) : Int)) := by
    cases ps with
    | nil => exact absurd rfl hne
    | cons p ps' =>
      simp only [List.map_cons, foldLines, sessSem_runLine cfg files dec st (expandArgs (fn :: as) p.1) p.2 h0 (hall p (by simp)).1]
  rw [hnone, sess_refines_interp cfg files dec (fn :: as) ps hall F st 0 (by omega)]

/-- a decoder for the example: `set -e`, `exit 7`, `ok` (marker 1, status 0), `bad` (marker 2, status 3) -/
def exDec (l : Str) : Option SStmt :=
  if l = "set -e".toList then some .sete else if l = "exit 7".toList then some (.exit 7)
  else if l = "ok".toList then some (.stage 1 0) else if l = "bad".toList then some (.stage 2 3) else none

/-- `function f { ok ⏎ set -e ⏎ bad ⏎ ok }`: both models stop at `bad` with status 3 -/
example : runLines (sessSem {} [] exDec) (callArgs "f".toList []) 9
      (C14.render false (C14.flat ["ok".toList, "set -e".toList, "bad".toList, "ok".toList])) {} =
    .ok (some { st := (runStmts {} [] 9 [.stage 1 0, .sete, .stage 2 3, .stage 1 0] {} 0).1, last := some 3 }) :=
  C15_function_body_sess {} [] exDec "f".toList [] false
    [("ok".toList, .stage 1 0), ("set -e".toList, .sete), ("bad".toList, .stage 2 3), ("ok".toList, .stage 1 0)] (by simp)
    (by intro p hp; simp at hp; rcases hp with rfl | rfl | rfl | rfl <;> exact ⟨rfl, rfl⟩)
    (by decide +kernel) 9 (by decide) {} rfl

end Cicada.C15
