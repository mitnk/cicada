import Cicada.Lemmas.C20
import Cicada.Lemmas.Lit
/-!
# C20 — what TAB inserts for a file name is read back as exactly that file

Chain modelled: `complete_path` (last token of `parse_line word`, `split_dir_file`, prefix and `for_dir`
filters, `escape_path` / `wrap_sep_string`, sort), then the line it leaves at the prompt through
`line_to_cmds`, `parse_line`, the expansion passes of `do_expansion` and planning (the functions of C01).

* `C20_full` = `C20_roundtrip_full ∧ C20_candidates_full` — the property at full strength; both halves are refuted
  (`C20_full_false`, `C20_candidates_full_false`).
* `C20_roundtrip_partial` — proved: for every environment, every plain program word and every path text in
  `okName` (unquoted: any characters except `$` `` ` `` `*` `{` `<` `>`, not starting with `~` or `|`, not
  `&`, not ending in white space — blanks, quotes, backslashes, `#`, `;`, `&`, `|`, parentheses, brackets,
  `!`, `^`, `,`, `}`, `?`, `=`, `%`, tabs, newlines and all non-ASCII text included; inside `'`: any text
  without `'`; inside `"`: any text without `$` `` ` `` `\` `"`), files and directories, the completed
  line is exactly one command whose argv is `[prog, name]`.
* `C20_candidates` — proved for all listings: what is offered is exactly (a permutation of) the offers for
  the entries that start with the typed prefix, directories only when asked.
* `C20_class_covers`, `C20_class_misses_tilde` — over the escape class regenerated from `src/tools.rs`; that the 18 listed
  characters are all the tokenizer, list splitting or a pass branches on is not a theorem.
* one witness per known-finding class, evaluated on the model.
-/
namespace Cicada.C20
open Cicada Cicada.TokLemmas Cicada.PassLemmas

def validName (n : Str) : Prop := n ≠ [] ∧ (∀ c ∈ n, c ≠ '/' ∧ c ≠ '\x00')

/-- the round trip at full strength: every context, every permitted name, files and directories -/
def C20_roundtrip_full : Prop :=
  ∀ (se : SubstEnv) (prog : Str) (ctx : Ctx) (n : Str) (isDir : Bool),
    C01.plainWord prog = true → (lookup se.env.aliases prog).isNone = true → prog ≠ "xargs".toList →
    validName n → ∀ f, 4 < f → Holds20 se f prog ctx n isDir

/-- a directory listing: names hold no `/` -/
def listingOk (fs : Str → Option (List (Str × Bool))) : Prop :=
  ∀ d es, fs d = some es → ∀ e ∈ es, ∀ c ∈ e.1, c ≠ '/'

/-- `complete_path`'s local `dirLookup` -/
def lookupDir (pre : Str) : Str := if uptoLast '/' pre = [] then ['.'] else uptoLast '/' pre

/-- what `complete_path` must answer for a typed prefix: the offers for the spec's candidates, in some order -/
def CandidatesHold (fs : Str → Option (List (Str × Bool))) (envVar : Str → Option Str) (ctx : Ctx) (pre : Str) (forDir : Bool) : Prop :=
  ∃ L, completePath fs envVar (typedWord ctx pre) forDir = .ok L ∧
    L.Perm ((candidates ((fs (lookupDir pre)).getD []) (afterLast '/' pre) forDir).map (offer ctx (uptoLast '/' pre)))

def C20_candidates_full : Prop :=
  ∀ fs envVar ctx pre forDir, listingOk fs → prefixExpressible ctx pre = true → CandidatesHold fs envVar ctx pre forDir

def C20_full : Prop := C20_roundtrip_full ∧ C20_candidates_full

/-- these characters, on which `parse_line`, `line_to_cmds` or an expansion pass branches, are in the escape class … -/
theorem C20_class_covers :
    [' ', '\'', '"', '`', '\\', '$', '(', ')', '<', '>', '|', '#', '&', ';', '{', '}', ',', '*'].all inEscapeClass = true := by
  decide +kernel

/-- … except `~`, on which `expand_home` branches (finding `tilde-first`) -/
theorem C20_class_misses_tilde : inEscapeClass '~' = false := by decide

theorem escapePath_slash (n : Str) : escapePath n ++ ['/'] = escapePath (n ++ ['/']) := by
  rw [escapePath_append]
  have : inEscapeClass '/' = false := by decide
  simp [escapePath, this]

theorem dropLast_wrap (q : Char) (n : Str) : (q :: (n ++ [q])).dropLast = q :: n := by
  rw [← List.cons_append, List.dropLast_concat]

theorem holds_of_plan (se : SubstEnv) (f : Nat) (prog : Str) (ctx : Ctx) (n : Str) (isDir : Bool) (sep : Str)
    (h : planLine se f (lineAfterTab prog ctx n isDir) = .ok (.ok (onePlan prog (received n isDir) sep))) :
    Holds20 se f prog ctx n isDir :=
  ⟨_, h, by simp [C01.obsOfPlan, expectedObs, onePlan]⟩

/-- **C20, round trip** on the names in `okName`.  `okName .sq` / `.dq` unfold to the very Booleans `C01.okArg` tests, which is
why `hn` serves as C01's argument guard below. -/
theorem C20_roundtrip_partial (se : SubstEnv) (prog : Str) (ctx : Ctx) (n : Str) (isDir : Bool)
    (hp : C01.plainWord prog = true) (ha : (lookup se.env.aliases prog).isNone = true) (hx : prog ≠ "xargs".toList)
    (f : Nat) (hf : 4 < f) (hn : okName ctx (received n isDir) = true) :
    Holds20 se f prog ctx n isDir := by
  have ha' : lookup se.env.aliases prog = none := Option.isNone_iff_eq_none.mp ha
  cases ctx with
  | unq =>
    apply holds_of_plan se f prog .unq n isDir []
    have e : lineAfterTab prog .unq n isDir = prog ++ ' ' :: escapePath (received n isDir) := by
      cases isDir <;> simp [lineAfterTab, argAfterTab, insertText, received, escapePath_slash]
    rw [e]
    exact plan_unq se f prog _ hp ha' hx hf hn
  | sq =>
    apply holds_of_plan se f prog .sq n isDir ['\'']
    have hq : ∀ c ∈ received n isDir, c ≠ '\'' := C01.okArg_sq hn
    have hqn : ∀ c ∈ n, c ≠ '\'' := by
      intro c hc; apply hq
      cases isDir <;> simp [received, hc]
    have e : lineAfterTab prog .sq n isDir = C01.renderCmd prog [(.sq, received n isDir)] := by
      cases isDir <;>
        simp [lineAfterTab, argAfterTab, insertText, received, wrapSepString_id '\'' n hqn, C01.renderCmd, C01.renderArg, dropLast_wrap]
    rw [e]
    have hg : C01.guard se.env prog [(.sq, received n isDir)] = true := by
      simp only [C01.guard, hp, ha, Bool.true_and, Bool.and_eq_true, decide_eq_true_eq, List.all_cons, List.all_nil, Bool.and_true]
      exact ⟨hx, hn⟩
    exact plan_quoted se f prog .sq _ hg hf
  | dq =>
    apply holds_of_plan se f prog .dq n isDir ['"']
    have hq : ∀ c ∈ received n isDir, c ≠ '"' := fun c hc => (C01.okArg_dq hn c hc).2.2.2
    have hqn : ∀ c ∈ n, c ≠ '"' := by
      intro c hc; apply hq
      cases isDir <;> simp [received, hc]
    have e : lineAfterTab prog .dq n isDir = C01.renderCmd prog [(.dq, received n isDir)] := by
      cases isDir <;>
        simp [lineAfterTab, argAfterTab, insertText, received, wrapSepString_id '"' n hqn, C01.renderCmd, C01.renderArg, dropLast_wrap]
    rw [e]
    have hg : C01.guard se.env prog [(.dq, received n isDir)] = true := by
      simp only [C01.guard, hp, ha, Bool.true_and, Bool.and_eq_true, decide_eq_true_eq, List.all_cons, List.all_nil, Bool.and_true]
      exact ⟨hx, hn⟩
    exact plan_quoted se f prog .dq _ hg hf

/-- **C20, candidates (all listings).** For every directory listing, every environment, and every typed prefix
in `okPrefix`, what `complete_path` offers is exactly the offers for the spec's candidates, in some order. -/
theorem C20_candidates (fs : Str → Option (List (Str × Bool))) (envVar : Str → Option Str) (ctx : Ctx) (pre : Str) (forDir : Bool)
    (hfs : listingOk fs) (h : okPrefix ctx pre = true) : CandidatesHold fs envVar ctx pre forDir := by
  obtain ⟨hp, he, hh, hd, hs⟩ := okPrefix_facts ctx pre h
  unfold CandidatesHold completePath
  simp only [hp, he, hh, expandEnvString_id envVar pre hd, splitPathname, Bool.false_eq_true, ↓reduceIte]
  have hl : (if uptoLast '/' pre = [] then ['.'] else uptoLast '/' pre) = lookupDir pre := rfl
  rw [hl]
  cases hfd : fs (lookupDir pre) with
  | none => exact ⟨[], rfl, by simp [candidates]⟩
  | some entries =>
    refine ⟨_, rfl, ?_⟩
    simp only [Option.getD_some, candidates]
    refine (List.mergeSort_perm _ _).trans ?_
    have hmap : ∀ l : List (Str × Bool), (∀ e ∈ l, ∀ c ∈ e.1, c ≠ '/') →
        l.map (fun x => mkCompletion ctx.sep false (uptoLast '/' pre) x.1 x.2) = l.map (offer ctx (uptoLast '/' pre)) := by
      intro l hl'
      apply List.map_congr_left
      intro e he'
      exact mkCompletion_offer ctx pre e.1 e.2 hs (hl' e he')
    have hfilter : (entries.filter (fun x => (!forDir || x.2) && startsWith x.1 (afterLast '/' pre))) =
        entries.filter (fun e => startsWith e.1 (afterLast '/' pre) && (!forDir || e.2)) := by
      congr 1; funext x; exact Bool.and_comm _ _
    have hsub : ∀ e ∈ entries.filter (fun e => startsWith e.1 (afterLast '/' pre) && (!forDir || e.2)), ∀ c ∈ e.1, c ≠ '/' :=
      fun e he' => hfs _ _ hfd e (List.mem_filter.mp he').1
    rw [hfilter, hmap _ hsub]
    exact ((List.mergeSort_perm _ _).map _).symm

/-- **the word start is a character boundary inside the line**, for every line (the editor's slice cannot panic) -/
theorem C20_wordstart_boundary (line : Str) :
    ∃ k, k ≤ line.length ∧ escapedWordStart line = utf8Len (line.take k) := wordstart_boundary line

theorem C20_wordstart_le (line : Str) : escapedWordStart line ≤ utf8Len line := by
  obtain ⟨k, _, h⟩ := wordstart_boundary line
  rw [h]; exact utf8Len_take_le line k

/-! ### known findings: witnesses on the model -/

/-- the witnesses' world: `$HOME`, a variable `V`, and a directory in which `a*b` also matches `axb` -/
def wEnv : SubstEnv :=
  { env := { exported := [("HOME".toList, "/h".toList), ("V".toList, "val".toList)],
             glob := fun p => if p = "a*b".toList then some ["a*b".toList, "axb".toList] else some [] },
    cmdOut := fun _ => [] }

def planArgs (toks : List Tok) (bg : Bool := false) : Outcome (Except String Plan) :=
  .ok (.ok { commands := [{ tokens := toks, redirectsTo := [], redirectFrom := none }], envs := [], background := bg })

theorem not_holds_of (se : SubstEnv) (f : Nat) (prog : Str) (ctx : Ctx) (n : Str) (isDir : Bool) (toks : List Tok) (bg : Bool)
    (h : planLine se f (lineAfterTab prog ctx n isDir) = planArgs toks bg)
    (hr : ¬ (toks.map (·.2) = [prog, received n isDir] ∧ bg = false)) : ¬ Holds20 se f prog ctx n isDir := by
  intro ⟨plan, h1, h2⟩
  rw [h] at h1
  simp only [planArgs] at h1
  injection h1 with h1; injection h1 with h1
  subst h1
  apply hr
  have e1 := congrArg C01.Obs.stages h2
  have e3 := congrArg C01.Obs.background h2
  simp only [C01.obsOfPlan, expectedObs, List.map_cons, List.map_nil, List.cons.injEq, Prod.mk.injEq, and_true] at e1 e3
  exact ⟨e1, e3⟩

def P : Str := "prog".toList

/-- a name holding `*` is inserted as `\*` and still globbed (KF-C20-esc-glob) -/
theorem C20_finding_esc_glob : ¬ Holds20 wEnv 20 P .unq "a*b".toList false :=
  not_holds_of _ _ _ _ _ _ [([], P), ([], "a*b".toList), ([], "axb".toList)] false (by decide +kernel) (by decide +kernel)

/-- a name starting with `~` is inserted as it is and expanded to `$HOME` (KF-C20-tilde-first) -/
theorem C20_finding_tilde_first : ¬ Holds20 wEnv 20 P .unq "~a".toList false :=
  not_holds_of _ _ _ _ _ _ [([], P), ([], "/ha".toList)] false (by decide +kernel) (by decide +kernel)

/-- a name holding `$V` is inserted as `\$V` and the variable is still expanded (KF-C20-esc-dollar) -/
theorem C20_finding_esc_dollar : ¬ Holds20 wEnv 20 P .unq "a$V".toList false :=
  not_holds_of _ _ _ _ _ _ [([], P), ([], "aval".toList)] false (by decide +kernel) (by decide +kernel)

/-- the name `{a,b}` is inserted as `\{a\,b\}` and still brace-expanded (KF-C20-esc-brace) -/
theorem C20_finding_esc_brace : ¬ Holds20 wEnv 20 P .unq "{a,b}".toList false :=
  not_holds_of _ _ _ _ _ _ [([], P), ([], "a".toList), ([], "b".toList)] false (by decide +kernel) (by decide +kernel)

/-- escaped backquotes still delimit a command substitution (KF-C20-esc-backquote) -/
theorem C20_finding_esc_backquote : ¬ Holds20 wEnv 20 P .unq "a`b`".toList false :=
  not_holds_of _ _ _ _ _ _ [([], P), ([], "a".toList)] false (by decide +kernel) (by decide +kernel)

/-- the file name `&` puts the command in the background (KF-C20-esc-amp) -/
theorem C20_finding_esc_amp : ¬ Holds20 wEnv 20 P .unq "&".toList false :=
  not_holds_of _ _ _ _ _ _ [([], P)] true (by decide +kernel) (by decide +kernel)

/-- a file name ending in a blank loses it (KF-C20-trailing-blank) -/
theorem C20_finding_trailing_blank : ¬ Holds20 wEnv 20 P .unq "a ".toList false :=
  not_holds_of _ _ _ _ _ _ [([], P), ([], "a".toList)] false (by decide +kernel) (by decide +kernel)

/-- inside an open single quote, `it's` is inserted as `'it\'s'` and read back as `it\s` (KF-C20-sq-quote) -/
theorem C20_finding_sq_quote : ¬ Holds20 wEnv 20 P .sq "it's".toList false :=
  not_holds_of _ _ _ _ _ _ [([], P), (['\''], "it\\s".toList)] false (by decide +kernel) (by decide +kernel)

/-- inside an open double quote a `$V` in the name is expanded (KF-C20-dq-dollar) -/
theorem C20_finding_dq_dollar : ¬ Holds20 wEnv 20 P .dq "a$V".toList false :=
  not_holds_of _ _ _ _ _ _ [([], P), (['"'], "aval".toList)] false (by decide +kernel) (by decide +kernel)

/-- inside an open double quote backquotes in the name run a command (KF-C20-dq-backquote) -/
theorem C20_finding_dq_backquote : ¬ Holds20 wEnv 20 P .dq "a`b`".toList false :=
  not_holds_of _ _ _ _ _ _ [([], P), (['"'], "a".toList)] false (by decide +kernel) (by decide +kernel)

/-- inside an open double quote a final backslash escapes the closing quote (KF-C20-dq-backslash) -/
theorem C20_finding_dq_backslash : ¬ Holds20 wEnv 20 P .dq "a\\".toList false :=
  not_holds_of _ _ _ _ _ _ [([], P), (['"'], "a\"".toList)] false (by decide +kernel) (by decide +kernel)

theorem C20_full_false : ¬ C20_full := by
  intro h
  exact C20_finding_tilde_first (h.1 wEnv P .unq "~a".toList false (by decide) (by rfl) (by decide) ⟨by decide, by decide⟩ 20 (by decide))

/-- an unquoted prefix typed `\\|` is read as a token tagged `\\`: the candidate is wrapped in backslashes and the
program receives `|` instead of `|#` (KF-C20-prefix-pipe-first) -/
theorem C20_finding_prefix_pipe_first :
    completePath (fun _ => some [("|#".toList, false)]) (fun _ => none) (typedWord .unq "|".toList) false
      = .ok [{ completion := "\\|#\\".toList, display := none, dirSuffix := false }] ∧
    planLine wEnv 20 (P ++ ' ' :: "\\|#\\".toList) = planArgs [([], P), (['\\'], "|".toList)] :=
  ⟨by decide +kernel, by decide +kernel⟩

/-- an unquoted prefix typed `\\$` : the same wrapping, and the escaping is switched off
(KF-C20-prefix-dollar) -/
theorem C20_finding_prefix_dollar :
    completePath (fun _ => some [("$a b".toList, false)]) (fun _ => none) (typedWord .unq "$".toList) false
      = .ok [{ completion := "\\$a b\\".toList, display := none, dirSuffix := false }] ∧
    planLine wEnv 20 (P ++ ' ' :: "\\$a b\\".toList) = planArgs [([], P), (['\\'], []), ([], "b".toList)] :=
  ⟨by decide +kernel, by decide +kernel⟩

/-- the candidate theorem does not extend to these prefixes: the offer differs from the spec's -/
theorem C20_candidates_full_false : ¬ C20_candidates_full := by
  intro h
  obtain ⟨L, h1, h2⟩ := h (fun _ => some [("|#".toList, false)]) (fun _ => none) .unq "|".toList false
    (by intro d es e x hx c hc; simp at e; subst e; simp at hx; subst hx; revert c; decide) (by rfl)
  rw [C20_finding_prefix_pipe_first.1] at h1
  injection h1 with h1
  subst h1
  have : (candidates ((some [("|#".toList, false)] : Option (List (Str × Bool))).getD []) (afterLast '/' "|".toList) false).map
      (offer .unq (uptoLast '/' "|".toList)) = [{ completion := "\\|\\#".toList, display := none, dirSuffix := false }] := by
    decide +kernel
  rw [this] at h2
  have := h2.eq_singleton
  revert this
  decide

example : okName .unq "sp ace (1) 'q' \"d\" a;b #x &y |z [é] 日本.txt".toList = true := by
  lit_lists
  decide +kernel
example : okName .sq "$HOME/*.{a,b} `x` \"q\" ~ \\ ".toList = true ∧ okName .dq "it's * {a,b} ~ | ; & # ".toList = true := by
  lit_lists
  decide +kernel
example : okPrefix .unq "sub/ab".toList = true ∧ okPrefix .sq "a b|c".toList = true ∧ okPrefix .dq "it's".toList = true := by
  lit_lists
  decide +kernel
example : Holds20 wEnv 20 P .unq "sp ace.txt".toList false :=
  C20_roundtrip_partial wEnv P .unq _ false (by decide +kernel) (by rfl) (by decide) 20 (by decide) (by decide +kernel)

end Cicada.C20
