import Cicada.Thm.C17
import Cicada.Lemmas.Lit
/-!
# C17 — a quoted `|` is an argument for the alias pass: the word after it is never alias-expanded

`expand_alias` treats a token as a command word when it is the first one or follows an UNQUOTED `|`
(`sep = ""` and `text = "|"`).  A quoted / escaped `|` (`sep ≠ ""`) is an ordinary word, so the token that
follows it is an argument and must be carried over unchanged: the mode after it is `false`, and the output
splits there (`go_append`).
-/
namespace Cicada.C17
open Cicada

/-- **C17 (quoted pipe, general).** Whatever stands before and after, the token following a quoted `|` reaches the output
unchanged, and the output splits there. -/
theorem C17_after_quoted_pipe (e : Env) (pre post : List Tok) (q s w : Str) (hq : q ≠ []) :
    expandAlias e (pre ++ [(q, "|".toList), (s, w)] ++ post) =
      expandAlias e (pre ++ [(q, "|".toList)]) ++ (s, w) :: expandAliasGo e (decide (s = [] ∧ w = ['|'])) post := by
  have hm : ∀ b, nextMode b (q, ['|']) = false := fun b => by simp [nextMode, hq]
  lit_lists
  -- re-bracket to `(pre ++ [(q, |)]) ++ (s, w) :: post`
  rw [List.append_assoc, List.cons_append, List.singleton_append, ← List.singleton_append (l := (s, w) :: post),
    ← List.append_assoc]
  unfold expandAlias
  rw [go_append, List.foldl_append, List.foldl_cons, List.foldl_nil, hm, go_false_cons]

theorem go_true_plain_stage (e : Env) (pre : List Tok) (hne : pre ≠ []) (hok : stageOk pre = true)
    (hna : lookup e.aliases (pre.head hne).2 = none) (rest : List Tok) :
    expandAliasGo e true (pre ++ rest) = pre ++ expandAliasGo e false rest := by
  rw [go_true_stage e pre hok rest]
  cases pre with
  | nil => exact absurd rfl hne
  | cons t ts =>
    obtain ⟨sep, w⟩ := t
    simp only [List.head_cons] at hna
    simp [specStage, hna]

/-- **C17 (quoted pipe is an argument).** If `pre` is one stage (`stageOk`: no unquoted `|`, not `xargs`, KF-C17-xargs)
whose first word is no alias name, everything up to and including the word after the quoted `|` is unchanged. -/
theorem C17_quoted_pipe_is_argument (e : Env) (pre post : List Tok) (q s w : Str) (hq : q ≠ [])
    (hne : pre ≠ []) (hok : stageOk pre = true) (hna : lookup e.aliases (pre.head hne).2 = none) :
    expandAlias e (pre ++ [(q, "|".toList), (s, w)] ++ post) =
      pre ++ [(q, "|".toList), (s, w)] ++ expandAliasGo e (decide (s = [] ∧ w = ['|'])) post := by
  rw [C17_after_quoted_pipe e pre post q s w hq]
  unfold expandAlias
  rw [go_true_plain_stage e pre hne hok hna, go_false_cons]
  simp [expandAliasGo]

/-- **C17 (quoted pipe, identity).** If moreover `post` holds no unquoted `|` and `(s, w)` is not one either,
nothing at all is rewritten. -/
theorem C17_quoted_pipe_identity (e : Env) (pre post : List Tok) (q s w : Str) (hq : q ≠ [])
    (hne : pre ≠ []) (hok : stageOk pre = true) (hna : lookup e.aliases (pre.head hne).2 = none)
    (hsw : ¬ (s = [] ∧ w = ['|'])) (hpost : noBarePipe post = true) :
    expandAlias e (pre ++ [(q, "|".toList), (s, w)] ++ post) = pre ++ [(q, "|".toList), (s, w)] ++ post := by
  rw [C17_quoted_pipe_is_argument e pre post q s w hq hne hok hna]
  have := go_false_stage e post hpost []
  simp only [List.append_nil] at this
  have hnil : expandAliasGo e false [] = [] := rfl
  simp only [hsw, decide_false, this, hnil, List.append_nil]

/-! ### contrast: an unquoted `|` makes the next word a command word -/

/-- `prog | ls` with `ls ↦ ls -l`: the word after the UNQUOTED `|` is expanded -/
theorem C17_unquoted_pipe_expands :
    expandAlias wEnv [([], "prog".toList), ([], "|".toList), ([], "ls".toList)] =
      [([], "prog".toList), ([], "|".toList), ([], "ls".toList), ([], "-l".toList)] := by
  decide +kernel

/-! ### non-vacuity: `prog '|' ls` with the alias table `ls ↦ ls -l` -/

/-- the guards hold on `prog '|' ls` -/
example : (['\''] : Str) ≠ [] ∧ stageOk [([], "prog".toList)] = true ∧
    lookup wEnv.aliases (([([], "prog".toList)] : List Tok).head (by simp)).2 = none ∧
    (lookup wEnv.aliases "ls".toList).isSome = true ∧ noBarePipe [] = true := by decide +kernel

/-- the theorem instantiated: `prog '|' ls` is left alone although `ls` is an alias -/
example : expandAlias wEnv [([], "prog".toList), (['\''], "|".toList), ([], "ls".toList)] =
    [([], "prog".toList), (['\''], "|".toList), ([], "ls".toList)] :=
  C17_quoted_pipe_identity wEnv [([], "prog".toList)] [] ['\''] [] "ls".toList (by decide) (by simp) (by decide +kernel)
    (by decide +kernel) (by decide +kernel) rfl

/-- the same, by evaluation; and with `"` and `\` as the tag, and with a tail `| ls` that IS expanded -/
example : expandAlias wEnv [([], "prog".toList), (['\''], "|".toList), ([], "ls".toList)] =
    [([], "prog".toList), (['\''], "|".toList), ([], "ls".toList)] := by decide +kernel
example : expandAlias wEnv [([], "prog".toList), (['\\'], "|".toList), ([], "ls".toList), ([], "|".toList), ([], "ls".toList)] =
    [([], "prog".toList), (['\\'], "|".toList), ([], "ls".toList), ([], "|".toList), ([], "ls".toList), ([], "-l".toList)] := by
  decide +kernel

#print axioms C17_after_quoted_pipe
#print axioms C17_quoted_pipe_is_argument
#print axioms C17_quoted_pipe_identity
#print axioms C17_unquoted_pipe_expands

end Cicada.C17
