import Cicada.Lemmas.Lit
import Cicada.Model.Prompt
import Cicada.Thm.C15word
import Cicada.Lemmas.C01
/-!
# C16 — a line means the same at the prompt, with -c, in a script, function or source

The entry points differ in one step only: `-c` hands the line to `run_command_line` as it is, the script
path (script file, function body, sourced file) first passes it through `scripting::expand_args` =
`tokens_to_line ∘ expand_args_in_tokens ∘ parse_line`.  So "means the same" is `expandArgs args line = line`
(then everything downstream is literally the same call), or at least equal plans.  The prompt is in `Thm/C16bang.lean`.
-/
/-! ### the tokenizer never invents a `$` -/
namespace Cicada.C16
open Cicada

def nd (t : Str) : Bool := t.all (· ≠ '$')
def ndToks (r : List Tok) : Bool := r.all (fun t => nd t.2)
def Clean (s : PL.St) : Prop := ndToks s.result = true ∧ nd s.token = true

theorem nd_cons {c : Char} {t : Str} (hc : c ≠ '$') (ht : nd t = true) : nd (c :: t) = true := by
  unfold nd at *
  rw [List.all_cons, ht, decide_eq_true hc]; rfl

theorem nd_append {a b : Str} (ha : nd a = true) (hb : nd b = true) : nd (a ++ b) = true := by
  unfold nd at *
  rw [List.all_append, ha, hb]; rfl

theorem nd_snoc {t : Str} {c : Char} (ht : nd t = true) (hc : c ≠ '$') : nd (t ++ [c]) = true :=
  nd_append ht (nd_cons hc rfl)

theorem ndToks_snoc {r : List Tok} {t : Str} (hr : ndToks r = true) (ht : nd t = true) (sp : Str) :
    ndToks (r ++ [(sp, t)]) = true := by
  unfold ndToks at *
  rw [List.all_append, hr, List.all_cons, ht]; rfl

theorem nd_nil : nd [] = true := rfl

/-- `Clean` looks at none of the conditions the scanner branches on: this is the one case lemma the invariant needs -/
theorem Clean.ite {p : Prop} {_ : Decidable p} {a b : PL.St} (ha : Clean a) (hb : Clean b) : Clean (if p then a else b) := by
  split
  · exact ha
  · exact hb

theorem Clean.pushTok {s : PL.St} (h : Clean s) (sp : Str) : Clean (PL.pushTok s sp) :=
  .ite ⟨ndToks_snoc h.1 h.2 _, h.2⟩ ⟨ndToks_snoc h.1 h.2 _, h.2⟩

theorem Clean.resetTok {s : PL.St} (h : Clean s) : Clean (PL.resetTok s) := ⟨h.1, rfl⟩

theorem stepTail_clean (s : PL.St) (c : Char) (hc : c ≠ '$') (h : Clean s) : Clean (PL.stepTail s c) := by
  have flush : ∀ sp, Clean (PL.resetTok (PL.pushTok s sp)) := fun sp => (h.pushTok sp).resetTok
  have push : Clean { s with token := s.token ++ [c] } := ⟨h.1, nd_snoc h.2 hc⟩
  unfold PL.stepTail
  -- the `.ite` tree follows the `if`s of `PL.stepTail` in their order; `s1`, `s2` are the two `let`s of the quote branch
  extract_lets _ _ s1 s2
  have h1 : Clean s1 := .ite (flush _) h
  have h2 : Clean s2 := ⟨h1.1, nd_snoc h1.2 hc⟩
  exact .ite
    (.ite (flush _) (.ite push (.ite ⟨ndToks_snoc h.1 h.2 _, rfl⟩ (.ite (.ite ⟨(h.pushTok []).1, rfl⟩ push) push))))
    (.ite
      (.ite h2 (.ite h2 (.ite (.ite h1 (.ite h2 (.ite h2 h2))) (.ite h1 h2))))
      push)

theorem stepMid_clean (s : PL.St) (c : Char) (hc : c ≠ '$') (h : Clean s) : Clean (PL.stepMid s c) := by
  have pipe : ∀ sp, Clean (PL.resetTok { PL.pushTok s sp with result := (PL.pushTok s sp).result ++ [([], ['|'])] }) :=
    fun sp => ⟨ndToks_snoc (h.pushTok sp).1 rfl _, rfl⟩
  unfold PL.stepMid
  exact .ite (.ite (pipe _) (.ite (pipe _) (stepTail_clean s c hc h))) (stepTail_clean s c hc h)

theorem step_clean (s : PL.St) (c : Char) (n : Option Char) (hc : c ≠ '$') (h : Clean s) : Clean (PL.step s c n) := by
  have push : ∀ {s : PL.St}, Clean s → Clean { s with token := s.token ++ [c] } := fun h => ⟨h.1, nd_snoc h.2 hc⟩
  unfold PL.step
  -- the chain of `.ite` follows the `if`s of `PL.step` in their order; `s1 … s4` are its four `let`s
  extract_lets s1 s2 s3 s4
  have h1 : Clean s1 := .ite h h
  have h2 : Clean s2 := .ite h1 h1
  have h3 : Clean s3 := .ite h2 h2
  have pipe : ∀ t, nd t = true → Clean { s4 with result := s4.result ++ [([], t)] } := fun t ht => ⟨ndToks_snoc h3.1 ht _, h3.2⟩
  exact .ite h <| .ite h <| .ite (push h) <|
    .ite ⟨h.1, nd_append h.2 (nd_cons (by decide) (nd_cons hc rfl))⟩ <|
    .ite (.ite ⟨h.1, nd_cons hc rfl⟩ (push h)) <|
    .ite h1 <| .ite h2 <| .ite (.ite (push h3) h3) <|
    .ite (.ite h3 <| .ite h3 <| .ite h3 <| .ite (.ite (pipe _ rfl) (pipe _ rfl)) (push h3))
      (stepMid_clean s3 c hc h3)

theorem go_clean (l : Str) : ∀ (s : PL.St), Clean s → (∀ c ∈ l, c ≠ '$') → Clean (PL.go s l) := by
  induction l with
  | nil => intro s h _; exact h
  | cons c cs ih =>
    intro s h hl
    exact ih _ (step_clean s c cs.head? (hl c (by simp)) h) (fun x hx => hl x (by simp [hx]))

theorem finish_clean (s : PL.St) (h : Clean s) : ndToks (PL.finish s) = true := by
  unfold PL.finish
  split
  · split
    · exact ndToks_snoc h.1 h.2 _
    · exact ndToks_snoc h.1 h.2 _
  · exact h.1

theorem splitOnChar_mem (d : Char) (l : Str) : ∀ p ∈ splitOnChar d l, ∀ x ∈ p, x ∈ l := by
  induction l with
  | nil => intro p hp x hx; simp [splitOnChar] at hp; subst hp; cases hx
  | cons c cs ih =>
    intro p hp x hx
    unfold splitOnChar at hp
    split at hp
    · simp at hp; subst hp; cases hx
    · rename_i q qs heq
      rw [heq] at ih
      have hq : ∀ r ∈ q :: qs, ∀ y ∈ r, y ∈ c :: cs := fun r hr y hy => List.mem_cons_of_mem _ (ih r hr y hy)
      split at hp
      · rcases List.mem_cons.mp hp with rfl | hp
        · cases hx
        · exact hq p hp x hx
      · rcases List.mem_cons.mp hp with rfl | hp
        · rcases List.mem_cons.mp hx with rfl | hx
          · exact List.mem_cons_self ..
          · exact hq q (List.mem_cons_self ..) x hx
        · exact hq p (List.mem_cons_of_mem _ hp) x hx

/-- **the tokenizer never invents a `$`**: the tokens of a line free of `$` are free of `$` -/
theorem parseLine_no_dollar (line : Str) (h : ∀ c ∈ line, c ≠ '$') : ∀ tok ∈ parseLine line, ∀ x ∈ tok.2, x ≠ '$' := by
  unfold parseLine parseLineInfo
  split
  · intro tok htok x hx
    simp only [List.mem_map] at htok
    obtain ⟨p, hp, rfl⟩ := htok
    exact h x (splitOnChar_mem ' ' line p hp x hx)
  · intro tok htok x hx
    have hc : Clean ({} : PL.St) := ⟨rfl, rfl⟩
    have := finish_clean _ (go_clean line _ hc h)
    simp only [ndToks, nd, List.all_eq_true, decide_eq_true_eq] at this
    exact this tok htok x hx

end Cicada.C16

namespace Cicada.C16
open Cicada Cicada.C15

/-- no `$` directly followed by a digit, `@` or `{` (coarser than the gate `is_args_in_token`, which lets `${NAME}` through) -/
def noDollarKey : Str → Bool
  | [] => true
  | c :: cs => !(c = '$' && (match cs with
      | d :: _ => isDigitA d || d = '@' || d = '{'
      | [] => false)) && noDollarKey cs

theorem noDollarKey_gate (t : Str) (h : noDollarKey t = true) : isArgsInToken t = false := by
  induction t with
  | nil => rfl
  | cons c cs ih =>
    simp only [noDollarKey, Bool.and_eq_true] at h
    unfold isArgsInToken
    rw [ih h.2, Bool.or_false]
    have h1 := h.1
    by_cases hc : c = '$'
    · cases cs with
      | nil => simp
      | cons d ds =>
        simp only [hc, decide_true, Bool.true_and, Bool.not_eq_true', Bool.or_eq_false_iff, decide_eq_false_iff_not] at h1
        simp [isArgKeyChar, h1.1.1, h1.1.2, h1.2]
    · simp [hc]

theorem noDollarKey_of_no_dollar (t : Str) (h : ∀ x ∈ t, x ≠ '$') : noDollarKey t = true := by
  induction t with
  | nil => rfl
  | cons c cs ih =>
    have hc := h c (by simp)
    simp [noDollarKey, hc, ih (fun x hx => h x (by simp [hx]))]

theorem argValue_nil (k : Str) : argValue [] k = [] := by
  unfold argValue
  split
  · simp [joinWith]
  · split <;> simp

theorem expandArgsTokAux_nil_length : ∀ (f : Nat) (t : Str), (expandArgsTokAux [] f t).length ≤ t.length := by
  intro f
  induction f with
  | zero => intro t; exact Nat.le_refl _
  | succ f ih =>
    intro t
    simp only [expandArgsTokAux]
    split
    · exact Nat.le_refl _
    · split
      · exact Nat.le_refl _
      · rename_i hd k tl heq
        have hlen := findArgRef_length t [] hd k tl heq
        have htl : (if tl = [] then [] else expandArgsTokAux [] f tl).length ≤ tl.length := by
          split
          · exact Nat.zero_le _
          · exact ih tl
        rw [argValue_nil]
        simp only [List.length_append, List.length_nil, Nat.zero_add] at hlen ⊢
        omega

theorem expandArgsTok_nil_args_shorter (t : Str) (hn : noNl t = true) (hg : isArgsInToken t = true) :
    (expandArgsTok [] t).length < t.length := by
  have hs := isArgsInToken_eq_findArgRef t []
  rw [hg] at hs
  cases hf : findArgRef [] t with
  | none => rw [hf] at hs; simp at hs
  | some p =>
    obtain ⟨hd, k, tl⟩ := p
    have hlen := findArgRef_length t [] hd k tl hf
    rw [expandArgsTok_step [] t hd k tl hn hf, argValue_nil]
    have := expandArgsTokAux_nil_length (tl.length + 1) tl
    simp only [List.length_append, List.length_nil, expandArgsTok] at hlen ⊢
    omega

theorem map_eq_self_iff {α : Type} (f : α → α) (l : List α) : l.map f = l ↔ ∀ x ∈ l, f x = x := by
  conv => lhs; rhs; rw [← List.map_id l]
  exact List.map_inj_left

/-- **the exact guard**: the positional pass leaves a token list unchanged for every argument list exactly when each
token is single- or back-quoted, or below the gate `is_args_in_token`, or holds a newline (then the code's pattern never
matches).  Necessity is seen with the empty argument list, under which a reference makes the text shorter. -/
theorem C16_gate_tight (ts : List Tok) :
    (∀ args, expandArgsInTokens args ts = ts) ↔
      ∀ tok ∈ ts, hardQuoted tok.1 = true ∨ isArgsInToken tok.2 = false ∨ noNl tok.2 = false := by
  simp only [expandArgsInTokens_eq_map, map_eq_self_iff]
  constructor
  · intro h tok htok
    have hx := h [] tok htok
    cases hq : hardQuoted tok.1 with
    | true => exact .inl rfl
    | false =>
      simp only [hq, Bool.false_eq_true, ↓reduceIte] at hx
      have hx : expandArgsTok [] tok.2 = tok.2 := congrArg Prod.snd hx
      cases hg : isArgsInToken tok.2 with
      | false => exact .inr (.inl rfl)
      | true =>
        cases hn : noNl tok.2 with
        | false => exact .inr (.inr rfl)
        | true =>
          have := expandArgsTok_nil_args_shorter tok.2 hn hg
          rw [hx] at this
          exact absurd this (Nat.lt_irrefl _)
  · intro h args tok htok
    rcases h tok htok with hq | hg | hn
    · rw [if_pos hq]
    · rw [expandArgsTok_gate_false args _ hg]; split <;> rfl
    · rw [expandArgsTok_nl args _ hn]; split <;> rfl

theorem C16_gate_false_id (args : List Str) (ts : List Tok)
    (h : ∀ tok ∈ ts, hardQuoted tok.1 = true ∨ isArgsInToken tok.2 = false) : expandArgsInTokens args ts = ts :=
  (C16_gate_tight ts).mpr (fun tok htok => (h tok htok).imp_right .inl) args

/-- **C16 (token level).**  Tokens that hold no `$` directly followed by a digit, `@` or `{` (outside single and back
quotes) are unchanged by the positional pass, whatever the script's arguments. -/
theorem C16_no_dollar_digit_id (args : List Str) (ts : List Tok)
    (h : ∀ tok ∈ ts, hardQuoted tok.1 = true ∨ noDollarKey tok.2 = true) : expandArgsInTokens args ts = ts :=
  C16_gate_false_id args ts (fun tok htok => (h tok htok).imp id (noDollarKey_gate tok.2))

/-- for such a line the script path hands `tokens_to_line (parse_line line)` to `run_command_line`, where `-c` hands over
`line`: the two entry points differ by the re-rendering only -/
theorem C16_script_path_is_rerender (args : List Str) (line : Str)
    (h : ∀ tok ∈ parseLine line, hardQuoted tok.1 = true ∨ noDollarKey tok.2 = true) :
    expandArgs args line = tokensToLine (parseLine line) := by
  unfold expandArgs
  rw [C16_no_dollar_digit_id args _ h]

/-- **C16 (line level).**  The same for every line that holds no `$` at all: the tokenizer never invents one. -/
theorem C16_no_dollar_line (args : List Str) (line : Str) (h : ∀ c ∈ line, c ≠ '$') :
    expandArgs args line = tokensToLine (parseLine line) :=
  C16_script_path_is_rerender args line
    (fun tok htok => Or.inr (noDollarKey_of_no_dollar tok.2 (parseLine_no_dollar line h tok htok)))

/-- the finer guard cannot be put on the LINE: the tokenizer drops a backslash, so `a$\\1` becomes the token `a$1` -/
theorem C16_line_guard_needs_tokens :
    noDollarKey "echo a$\\1".toList = true ∧
    expandArgs ["s".toList, "A".toList] "echo a$\\1".toList = "echo aA".toList ∧
    tokensToLine (parseLine "echo a$\\1".toList) = "echo a$1".toList := by
  lit_lists
  decide +kernel

/-! ### non-vacuity -/
example : noDollarKey "a$b$?$$ $(x) $".toList = true := by
  lit_lists
  decide +kernel
/-- the exact gate also lets `${NAME}` through, which the simple guard `noDollarKey` does not -/
example : isArgsInToken "a${HOME}${x1}$".toList = false ∧ noDollarKey "a${HOME}".toList = false := by
  lit_lists
  decide +kernel
example : noDollarKey "a$1".toList = false ∧ noDollarKey "$@".toList = false ∧ noDollarKey "${1}".toList = false := by decide +kernel
example : ∀ c ∈ "argv 'a;b' \"c && d\" e\\ f | cat > out".toList, c ≠ '$' := by
  lit_lists
  decide +kernel
example : ∀ tok ∈ parseLine "echo $HOME '$1' \"a b\" | cat".toList, hardQuoted tok.1 = true ∨ noDollarKey tok.2 = true := by
  lit_lists
  decide +kernel
example : expandArgsInTokens [] [(['"'], "$1".toList)] ≠ [(['"'], "$1".toList)] := by decide +kernel

end Cicada.C16

namespace Cicada.C16
open Cicada Cicada.C01 Cicada.TokLemmas Cicada.PassLemmas

theorem isArgsInToken_false (t : Str) (h : ∀ c ∈ t, c ≠ '$') : isArgsInToken t = false :=
  noDollarKey_gate t (noDollarKey_of_no_dollar t h)

theorem tokenToText_tokOf (x : Style × Str) (h : styleOk x = true) : tokenToText (tokOf x) = renderArg x.1 x.2 := by
  obtain ⟨s, a⟩ := x
  cases s with
  | sq =>
    simp [tokenToText, tokOf, wrapSepString, wrapBody_id '\'' a (okArg_sq h), renderArg]
  | dq =>
    simp [tokenToText, tokOf, wrapSepString, wrapBody_id '"' a (fun c hc => (okArg_dq h c hc).2.2.2), renderArg]
  | esc => simp [styleOk] at h

theorem tokensToLine_render (p : Str) (args : List (Style × Str)) (ha : args.all styleOk = true) :
    tokensToLine (([], p) :: args.map tokOf) = renderCmd p args := by
  simp only [tokensToLine, List.map_cons, joinWith_blank, renderCmd, List.map_map]
  congr 2
  apply List.map_congr_left
  intro x hx
  simp only [Function.comp]
  rw [tokenToText_tokOf x ((List.all_eq_true.mp ha) x hx)]

/-- **the script path reproduces the line character for character** -/
theorem C16_rerender_id (scriptArgs : List Str) (p : Str) (args : List (Style × Str))
    (hp : plainWord p = true) (ha : args.all styleOk = true) :
    expandArgs scriptArgs (renderCmd p args) = renderCmd p args := by
  obtain ⟨hw, hl⟩ : p.all wordChar = true ∧ p.any isAlphaA = true := by
    simp only [plainWord, Bool.and_eq_true] at hp
    exact ⟨by simpa [wordChar] using hp.2, hp.1⟩
  have hid : ∀ tok ∈ ([], p) :: args.map tokOf, C15.hardQuoted tok.1 = true ∨ isArgsInToken tok.2 = false := by
    intro tok htok
    rcases List.mem_cons.mp htok with rfl | htok
    · exact .inr (isArgsInToken_false p (word_no p hw '$' (by decide)))
    · obtain ⟨⟨s, a⟩, hx, rfl⟩ := List.mem_map.mp htok
      have hok := (List.all_eq_true.mp ha) _ hx
      cases s with
      | sq => exact .inl rfl
      | dq =>
        exact .inr (isArgsInToken_false a (fun c hc => (okArg_dq hok c hc).1))
      | esc => simp [styleOk] at hok
  unfold expandArgs
  rw [parseLine_renderCmd p args hw hl ha, C16_gate_false_id scriptArgs _ hid, tokensToLine_render p args ha]

theorem C16_same_plan (se : SubstEnv) (f : Nat) (scriptArgs : List Str) (p : Str) (args : List (Style × Str))
    (hp : plainWord p = true) (ha : args.all styleOk = true) :
    planOf se f (expandArgs scriptArgs (renderCmd p args)) = planOf se f (renderCmd p args) := by
  rw [C16_rerender_id scriptArgs p args hp ha]

/-! ### finding: unquoted escapes do not survive the script path (KF-C16-unquoted-escape) -/
theorem C16_finding_unquoted_escape : expandArgs [] "echo a\\ b".toList = "echo a b".toList := by
  lit_lists
  decide +kernel
theorem C16_finding_escaped_semicolon : expandArgs [] "g\\;h".toList = "g;h".toList := by decide +kernel

/-! ### non-vacuity -/
example : expandArgs ["s".toList, "x".toList] "prog 'a;b' \"c && d\" '$1'".toList = "prog 'a;b' \"c && d\" '$1'".toList := by
  lit_lists
  decide +kernel

end Cicada.C16
