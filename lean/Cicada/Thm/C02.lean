import Cicada.Lemmas.Wiring
import Cicada.Thm.C08
import Cicada.Model.Jobs
import Batteries.Data.List.Perm
/-!
# C02 — pipelines deliver every byte, terminate, and report the last stage's status

What is proved here is the part of the statement that is logic:

* **wiring** (`C02_wiring`): for EVERY number of stages, every limit and every starting table with 0, 1, 2 open, a
  pipeline of commands without redirections, outside a command substitution, forks its stages so that every stage `i`
  that reaches `execve` does so with descriptor 1 = the write end
  of pipe `i` (unless last: the shell's own 1), descriptor 0 = the read end of pipe `i - 1` (unless first: the shell's
  own 0) and descriptor 2 = the shell's own 2; by `C08_children_clean` it holds nothing else, and by
  `C08_shell_restored` the shell holds no end of any pipe once the loop is over.  So each pipe has exactly one holder of
  its write end (stage `i`) and one of its read end (stage `i + 1`): with the two kernel facts "bytes written to a pipe
  are read in order" and "a reader sees end-of-file when the last write end is closed" (facts about Linux, part of the
  world model, exercised by the process-level stream, not proved) delivery and termination follow.
* **status** (`C02_status`): `wait_fg_job` returns the status carried by the notification of the LAST pid, whatever
  order the stages finish in and whatever notifications of other children are interleaved (`C02_status_perm`: for every
  permutation of the finishing order).
-/
namespace Cicada.C02
open Cicada.Kernel Cicada.Kernel.Table Cicada.Pipeline Cicada.C08

/-- what a stage of a pipeline without redirections must hold on 0, 1, 2 when it is exec'd: `np0` numbers the first
pipe, `m + 1` is the number of stages -/
def WiredChild (t0 : Table) (np0 m : Nat) (c : Nat × ChildEnd × List (Str × Nat)) : Prop :=
  ∀ argv tc, c.2.1 = .exec argv tc →
    tc 0 = (if c.1 = 0 then t0.atExec 0 else some { obj := .pipeR (np0 + c.1 - 1) }) ∧
    tc 1 = (if c.1 = m then t0.atExec 1 else some { obj := .pipeW (np0 + c.1) }) ∧
    tc 2 = t0.atExec 2

theorem childRun_plain (cfg : Cfg) (cmd : Command) (prev cur : Option Fds) (right : List Fds) (tf : Table)
    (hp : cmd.plain) :
    (childRun cfg cmd prev cur right (none, none) none false tf).1 =
      (let t := childPipes prev cur right (none, none) tf
       if cfg.isBuiltin cmd.name then .builtin cmd.argv t
       else if cfg.found cmd.name ∧ (cmd.name.contains '/' || (t.lowestFree cfg.lim).isSome) then .exec cmd.argv t.atExec
       else .notFound cmd.argv t) := by
  obtain ⟨h1, h2⟩ := hp
  unfold childRun childStdin
  simp [Command.isFrom, Command.isHere, h1, h2, redirLoop]

/-- the invariant of the `for i in 0..length` loop for a pipeline without here-strings (`prev = none` exactly when `i = 0`) -/
structure LInv (t0 : Table) (np0 m : Nat) (prev : Option Fds) (rest : List Fds) (i : Nat) (t : Table) : Prop where
  wired : Wired t rest (np0 + i)
  prevOk : ∀ p, prev = some p → 0 < i ∧ t p.1 = some { obj := .pipeR (np0 + i - 1) }
  prevNone : prev = none → i = 0
  nd : (prevFds prev ++ fdsOf rest).Nodup
  ge : ∀ x ∈ prevFds prev ++ fdsOf rest, 3 ≤ x
  std : t 0 = t0 0 ∧ t 1 = t0 1 ∧ t 2 = t0 2
  len : rest.length + i = m

theorem stage_wired (cfg : Cfg) (cmd : Command) (t0 : Table) (np0 m i : Nat) (prev : Option Fds) (rest : List Fds) (t : Table)
    (hp : cmd.plain) (hI : LInv t0 np0 m prev rest i t) :
    WiredChild t0 np0 m (i, childRun cfg cmd prev rest.head? rest.tail (none, none) none false t) := by
  intro argv tc hce
  simp only at hce
  rw [childRun_plain cfg cmd prev rest.head? rest.tail t hp] at hce
  simp only at hce
  split at hce
  · cases hce
  · split at hce
    · simp only [ChildEnd.exec.injEq] at hce
      obtain ⟨_, rfl⟩ := hce
      have hcurE : ∀ c, rest.head? = some c → t c.2 = some { obj := .pipeW (np0 + i) } := by
        intro c hc
        cases rest with
        | nil => simp at hc
        | cons q qs => simp at hc; subst hc; exact hI.wired.2.1
      have hprevE : ∀ p, prev = some p → t p.1 = some { obj := .pipeR (np0 + i - 1) } := fun p hp => (hI.prevOk p hp).2
      have hlist : prevFds prev ++ optFds rest.head? ++ fdsOf rest.tail = prevFds prev ++ fdsOf rest := by
        cases rest <;> simp [optFds, fdsOf]
      obtain ⟨h0, h1, h2⟩ := childPipes_std prev rest.head? rest.tail t { obj := .pipeW (np0 + i) } { obj := .pipeR (np0 + i - 1) }
        hprevE hcurE (by rw [hlist]; exact hI.ge) (by rw [hlist]; exact hI.nd)
      refine ⟨?_, ?_, atExec_congr (h2.trans hI.std.2.2)⟩
      · cases prev with
        | none =>
          cases hI.prevNone rfl
          exact (atExec_congr (h0.trans hI.std.1)).trans (if_pos rfl).symm
        | some p =>
          have hi : i ≠ 0 := Nat.pos_iff_ne_zero.mp (hI.prevOk p rfl).1
          rw [atExec_apply, h0]
          exact (if_neg hi).symm
      · cases rest with
        | nil =>
          cases (show i = m by simpa using hI.len)
          exact (atExec_congr (h1.trans hI.std.2.1)).trans (if_pos rfl).symm
        | cons c qs =>
          have hi : i ≠ m := by have := hI.len; simp at this; omega
          rw [atExec_apply, h1]
          exact (if_neg hi).symm
    · cases hce

theorem linv_next (t0 : Table) (np0 m i : Nat) (prev : Option Fds) (rest : List Fds) (t : Table)
    (hI : LInv t0 np0 m prev rest i t) (hne : rest ≠ []) :
    LInv t0 np0 m rest.head? rest.tail (i + 1) (release prev rest.head? (none, none) t) := by
  cases rest with
  | nil => exact absurd rfl hne
  | cons c qs =>
    simp only [List.head?_cons, List.tail_cons]
    have hcons : fdsOf (c :: qs) = c.1 :: c.2 :: fdsOf qs := rfl
    have hnd := hI.nd
    have hge := hI.ge
    rw [hcons] at hnd hge
    obtain ⟨hw1, hw2, hw3⟩ := hI.wired
    obtain ⟨_, h2, h3⟩ := List.nodup_append.mp hnd
    simp only [List.nodup_cons, List.mem_cons, not_or] at h2
    obtain ⟨⟨hc12, hc1q⟩, hc2q, hqnd⟩ := h2
    have hpc : ∀ p, prev = some p → p.1 ≠ c.1 ∧ p.1 ≠ c.2 ∧ p.1 ∉ fdsOf qs := by
      rintro p rfl
      have := h3 p.1 List.mem_cons_self
      exact ⟨this c.1 List.mem_cons_self, this c.2 (List.mem_cons_of_mem _ List.mem_cons_self),
        fun hm => this p.1 (List.mem_cons_of_mem _ (List.mem_cons_of_mem _ hm)) rfl⟩
    -- the parent closes the write end of this stage's pipe and the read end of the previous one: nothing else changes
    have keep : ∀ x, x ≠ c.2 → (∀ p, prev = some p → x ≠ p.1) → (release prev (some c) (none, none) t) x = t x := by
      intro x h1 h2
      rw [release_apply, if_neg]
      rintro (⟨q, hq, rfl⟩ | ⟨p, hp, rfl⟩ | ⟨hn, _⟩)
      · cases hq; exact h1 rfl
      · exact h2 p hp rfl
      · cases hn
    refine ⟨?_, ?_, ?_, ?_, ?_, ?_, ?_⟩
    · apply wired_congr qs _ _ (by simpa [Nat.add_assoc] using hw3)
      intro x hx
      apply keep
      · exact fun e => hc2q (e ▸ hx)
      · intro p hp e; exact (hpc p hp).2.2 (e ▸ hx)
    · intro p hp
      simp only [Option.some.injEq] at hp
      subst hp
      refine ⟨by omega, ?_⟩
      rw [keep c.1 hc12 (fun q hq e => (hpc q hq).1 e.symm)]
      simpa using hw1
    · intro h; cases h
    · simp only [prevFds, List.cons_append, List.nil_append, List.nodup_cons]
      exact ⟨hc1q, hqnd⟩
    · intro x hx
      apply hge
      rcases List.mem_cons.mp hx with rfl | hx
      · exact List.mem_append.mpr (Or.inr List.mem_cons_self)
      · exact List.mem_append.mpr (Or.inr (List.mem_cons_of_mem _ (List.mem_cons_of_mem _ hx)))
    · have hlow : ∀ x, x < 3 → (release prev (some c) (none, none) t) x = t x := by
        intro x hx
        apply keep
        · have := hge c.2 (List.mem_append.mpr (Or.inr (List.mem_cons_of_mem _ List.mem_cons_self))); omega
        · intro p hp; have := hge p.1 (by simp [hp, prevFds]); omega
      exact ⟨(hlow 0 (by omega)).trans hI.std.1, (hlow 1 (by omega)).trans hI.std.2.1, (hlow 2 (by omega)).trans hI.std.2.2⟩
    · have := hI.len; simp at this ⊢; omega

theorem parentLoop_wired (cfg : Cfg) (bg : Bool) (t0 : Table) (np0 m : Nat) :
    ∀ (cmds : List Command) (prev : Option Fds) (rest : List Fds) (i : Nat) (s : PState),
      (∀ c ∈ cmds, c.plain) → LInv t0 np0 m prev rest i s.shell → rest.length + 1 = cmds.length →
      (∀ c ∈ s.children, WiredChild t0 np0 m c) →
      ∀ c ∈ (parentLoop cfg (none, none) false bg prev rest cmds i s).children, WiredChild t0 np0 m c := by
  intro cmds
  induction cmds with
  | nil => intro _ _ _ s _ _ _ hg; simpa [parentLoop] using hg
  | cons c cs ih =>
    intro prev rest i s hpl hI hlen hg
    unfold parentLoop
    have hcp := hpl c List.mem_cons_self
    have hnh : c.isHere = false := by simp [Command.isHere, hcp.2]
    have hstage : parentStage cfg c i prev rest.head? rest.tail (none, none) false bg s =
        { shell := release prev rest.head? (none, none) s.shell, np := s.np,
          children := s.children ++ [(i, childRun cfg c prev rest.head? rest.tail (none, none) none false s.shell)],
          fg := if bg then s.fg else s.fg ++ [FgPid.stage i], fed := s.fed, hsFailed := s.hsFailed } := by
      unfold parentStage
      simp only [hnh, Bool.false_eq_true, ↓reduceIte]
      rfl
    have hgood' : ∀ x ∈ (parentStage cfg c i prev rest.head? rest.tail (none, none) false bg s).children, WiredChild t0 np0 m x := by
      rw [hstage]
      intro x hx
      simp only [List.mem_append, List.mem_cons, List.not_mem_nil, or_false] at hx
      rcases hx with hx | rfl
      · exact hg x hx
      · exact stage_wired cfg c t0 np0 m i prev rest s.shell hcp hI
    cases cs with
    | nil => simpa [parentLoop] using hgood'
    | cons c' cs' =>
      have hne : rest ≠ [] := by intro e; simp [e] at hlen
      apply ih
      · exact fun x hx => hpl x (List.mem_cons_of_mem _ hx)
      · rw [parentStage_shell]; exact linv_next t0 np0 m i prev rest s.shell hI hne
      · cases rest with
        | nil => exact absurd rfl hne
        | cons _ _ => simp at hlen ⊢; omega
      · exact hgood'

/-- **wiring of a pipeline without redirections** — every stage that is exec'd holds on 0 / 1 / 2 exactly the ends of
its neighbouring pipes (the shell's own descriptors at the two ends of the pipeline) -/
theorem C02_wiring (cfg : Cfg) (cmds : List Command) (bg : Bool) (t0 : Table) (np : Nat)
    (h0 : (t0 0).isSome) (h1 : (t0 1).isSome) (h2 : (t0 2).isSome) (hpl : ∀ c ∈ cmds, c.plain) :
    ∀ c ∈ (runPipeline cfg cmds false bg t0 np).children, WiredChild t0 np (cmds.length - 1) c := by
  rcases runPipeline_ran cfg cmds false bg t0 np with ⟨_, h⟩ | ⟨t1, np1, pipes, cap, hR, _, hcap, hlen, _, hch, hpipes, ht1⟩
  · rw [h]; intro c hc; cases hc
  · cases hcap rfl
    rw [hch]
    have hW := mkPipes_wired cfg.lim np (cmds.length - 1) t0 [] trivial (by simp [fdsOf])
    simp only [List.length_nil, Nat.add_zero, hpipes, ht1 rfl] at hW
    cases cmds with
    | nil => intro c hc; cases hc
    | cons c cs =>
      have hR' : Restores t0 t1 (fdsOf pipes) := by simpa [capFds] using hR
      have hge : ∀ x ∈ fdsOf pipes, 3 ≤ x := fun x hx => ((cleanUpTo_of_restores hR' h0 h1 h2).free x hx).2
      have hlow : ∀ x, x < 3 → t1 x = t0 x := fun x hx => hR'.1 x (fun hm => by have := hge x hm; omega)
      apply parentLoop_wired cfg bg t0 np (cs.length) (c :: cs) none pipes 0 _ hpl
      · exact ⟨(by simpa using hW.1), (fun p hp => by cases hp), (fun _ => rfl), (by simpa [prevFds] using hW.2),
          (by simpa [prevFds] using hge), ⟨hlow 0 (by omega), hlow 1 (by omega), hlow 2 (by omega)⟩, (by simpa using hlen)⟩
      · simpa using hlen
      · intro c hc; cases hc

/-! ### the status: `wait_fg_job` (model: `Jobs.waitFgGo`) -/
open Cicada.Jobs

def _root_.Cicada.Jobs.Ev.isCont : Ev → Bool
  | .continued _ => true
  | _ => false

def _root_.Cicada.Jobs.Ev.terminal : Ev → Bool
  | .exited _ _ => true
  | .killed _ _ => true
  | _ => false

theorem nodup_map_inj {α β} (f : α → β) : ∀ (l : List α), (l.map f).Nodup → ∀ a ∈ l, ∀ b ∈ l, f a = f b → a = b := by
  intro l
  induction l with
  | nil => intro _ a ha; simp at ha
  | cons x xs ih =>
    intro hnd a ha b hb hab
    simp only [List.map_cons, List.nodup_cons, List.mem_map, not_exists, not_and] at hnd
    rcases List.mem_cons.mp ha with rfl | ha' <;> rcases List.mem_cons.mp hb with rfl | hb'
    · rfl
    · exact absurd hab.symm (hnd.1 b hb')
    · exact absurd hab (hnd.1 a ha')
    · exact ih hnd.2 a ha' b hb' hab

def isFg (pids : List Pid) (e : Ev) : Bool := pids.contains e.pid

def isLastEv (pids : List Pid) (e : Ev) : Bool := isFg pids e && some e.pid == pids.getLast?

/-- the status `wait_fg_job` returns, one notification at a time; the state it threads through does not matter for it -/
theorem waitFgGo_snd_cons (gid : Pid) (pids : List Pid) (e : Ev) (rest : List Ev) (s : Sh) (waited : Nat) (st : Int) :
    ∃ s', (waitFgGo gid pids (e :: rest) s waited st).2 =
      if e.isCont then (waitFgGo gid pids rest s' waited st).2
      else if (if isFg pids e then waited + 1 else waited) ≥ pids.length then
        (if isFg pids e ∧ some e.pid = pids.getLast? then e.status else st)
      else (waitFgGo gid pids rest s' (if isFg pids e then waited + 1 else waited)
        (if isFg pids e ∧ some e.pid = pids.getLast? then e.status else st)).2 := by
  cases e with
  | continued p => exact ⟨_, rfl⟩
  | exited p c => exact ⟨_, apply_ite Prod.snd _ _ _⟩
  | killed p g => exact ⟨_, apply_ite Prod.snd _ _ _⟩
  | stopped p g => exact ⟨_, apply_ite Prod.snd _ _ _⟩

/-- the wait loop, for any queue in which the pipeline's own notifications are exits / kills, one per process:
the status returned is the one carried by the last pid's notification, wherever it sits in the queue and whatever
notifications of other children (exits, stops, continues of background jobs) are interleaved -/
theorem waitFgGo_status (gid : Pid) (pids : List Pid) : ∀ (evs : List Ev) (s : Sh) (waited : Nat) (st : Int),
    (∀ e ∈ evs, isFg pids e = true → e.terminal = true) →
    ((evs.filter (isFg pids)).map Ev.pid).Nodup →
    (evs.filter (isFg pids)).length + waited = pids.length → waited < pids.length →
    (waitFgGo gid pids evs s waited st).2 =
      (match evs.find? (isLastEv pids) with | some e => e.status | none => st) := by
  intro evs
  induction evs with
  | nil => intro s waited st _ _ _ _; rfl
  | cons e rest ih =>
    intro s waited st hterm hnd hcount hlt
    have hterm' : ∀ x ∈ rest, isFg pids x = true → x.terminal = true := fun x hx => hterm x (List.mem_cons_of_mem _ hx)
    obtain ⟨s', heq⟩ := waitFgGo_snd_cons gid pids e rest s waited st
    rw [heq, List.find?_cons]
    by_cases hfg : isFg pids e = true
    · -- one of ours: an exit or a kill
      have hnc : e.isCont = false := by
        have hte := hterm e List.mem_cons_self hfg
        cases e with
        | continued p => cases hte
        | _ => rfl
      simp only [List.filter_cons, hfg, ↓reduceIte, List.map_cons, List.nodup_cons, List.length_cons] at hnd hcount
      simp only [hnc, hfg, Bool.false_eq_true, ↓reduceIte, true_and]
      by_cases hl : some e.pid = pids.getLast?
      · -- this is the last pid's notification: no later one carries that pid
        have hle : isLastEv pids e = true := by simp [isLastEv, hfg, hl]
        simp only [hle, hl, ↓reduceIte]
        split
        · rfl
        · rw [ih _ _ _ hterm' hnd.2 (by omega) (by omega)]
          have hnone : rest.find? (isLastEv pids) = none := by
            rw [List.find?_eq_none]
            intro x hx hxl
            simp only [isLastEv, Bool.and_eq_true, beq_iff_eq] at hxl
            have hxp : x.pid = e.pid := Option.some.inj (hxl.2.trans hl.symm)
            exact hnd.1 (List.mem_map.mpr ⟨x, List.mem_filter.mpr ⟨hx, hxl.1⟩, hxp⟩)
          rw [hnone]
      · have hle : isLastEv pids e = false := by simp [isLastEv, hl]
        simp only [hle, hl, ↓reduceIte]
        split
        · -- the count is complete: nothing of ours is left in the queue
          have hz : rest.filter (isFg pids) = [] := List.length_eq_zero_iff.mp (by omega)
          have hnone : rest.find? (isLastEv pids) = none := by
            rw [List.find?_eq_none]
            intro x hx hxl
            simp only [isLastEv, Bool.and_eq_true] at hxl
            have : x ∈ rest.filter (isFg pids) := List.mem_filter.mpr ⟨hx, hxl.1⟩
            rw [hz] at this; cases this
          rw [hnone]
        · exact ih _ _ _ hterm' hnd.2 (by omega) (by omega)
    · -- a notification of some other child: recorded elsewhere, the count and the status are untouched
      have hfgf : isFg pids e = false := by simpa using hfg
      simp only [List.filter_cons, hfgf, Bool.false_eq_true, ↓reduceIte] at hnd hcount
      have hnl : isLastEv pids e = false := by simp [isLastEv, hfgf]
      have hge : ¬ waited ≥ pids.length := by omega
      simp only [hfgf, hnl, Bool.false_eq_true, ↓reduceIte, false_and, hge, ite_self]
      exact ih _ _ _ hterm' hnd hcount hlt

/-- **the pipeline's status is the last stage's**, whatever order the stages finish in: if the queue holds exactly one
exit / kill notification per stage (in any order, with anything about other children in between), `wait_fg_job`
returns the status carried by the last pid's notification — its exit code, or 128 + signal -/
theorem C02_status (s : Sh) (gid : Pid) (pids : List Pid) (elast : Ev) (hne : pids ≠ [])
    (hterm : ∀ e ∈ s.pending, isFg pids e = true → e.terminal = true)
    (hnd : ((s.pending.filter (isFg pids)).map Ev.pid).Nodup)
    (hcount : (s.pending.filter (isFg pids)).length = pids.length)
    (hlast : elast ∈ s.pending) (hlp : some elast.pid = pids.getLast?) :
    (waitFg s gid pids).2 = elast.status := by
  unfold waitFg
  simp only [hne, ↓reduceIte]
  have hlen : 0 < pids.length := List.length_pos_iff.mpr hne
  rw [waitFgGo_status gid pids s.pending s 0 0 hterm hnd (by omega) hlen]
  have hfgl : isFg pids elast = true := by
    have : elast.pid ∈ pids := by
      have := List.getLast?_eq_some_iff.mp hlp.symm
      obtain ⟨ys, rfl⟩ := this; simp
    simpa [isFg] using this
  have hle : isLastEv pids elast = true := by simp [isLastEv, hfgl, hlp]
  cases hf : s.pending.find? (isLastEv pids) with
  | none => exact absurd hle (by simpa using List.find?_eq_none.mp hf elast hlast)
  | some e' =>
    -- the notification found is the one of the last pid: pids of our notifications are distinct
    have he'm := List.mem_of_find?_eq_some hf
    have he'l := List.find?_some hf
    simp only [isLastEv, Bool.and_eq_true, beq_iff_eq] at he'l
    have hpid : e'.pid = elast.pid := by have := he'l.2.trans hlp.symm; simpa using this
    have : e' = elast := by
      have h1 : e' ∈ s.pending.filter (isFg pids) := List.mem_filter.mpr ⟨he'm, he'l.1⟩
      have h2 : elast ∈ s.pending.filter (isFg pids) := List.mem_filter.mpr ⟨hlast, hfgl⟩
      exact nodup_map_inj Ev.pid _ hnd e' h1 elast h2 hpid
    simp [this]

/-- **every finishing order gives the same status**: permuting the queue does not change what `wait_fg_job` reports -/
theorem C02_status_perm (s1 s2 : Sh) (gid : Pid) (pids : List Pid) (hne : pids ≠ [])
    (hperm : s1.pending.Perm s2.pending)
    (hterm : ∀ e ∈ s1.pending, isFg pids e = true → e.terminal = true)
    (hnd : ((s1.pending.filter (isFg pids)).map Ev.pid).Nodup)
    (hcount : (s1.pending.filter (isFg pids)).length = pids.length) :
    (waitFg s1 gid pids).2 = (waitFg s2 gid pids).2 := by
  have hfp := hperm.filter (isFg pids)
  -- the last pid has a notification in the queue (the pids of our notifications are exactly the stages)
  have hlen : 0 < pids.length := List.length_pos_iff.mpr hne
  obtain ⟨pl, hpl⟩ : ∃ pl, pids.getLast? = some pl := by
    cases h : pids.getLast? with
    | none => simp [List.getLast?_eq_none_iff] at h; exact absurd h hne
    | some x => exact ⟨x, rfl⟩
  have hsub : ∀ p ∈ (s1.pending.filter (isFg pids)).map Ev.pid, p ∈ pids := by
    intro p hp
    obtain ⟨e, he, rfl⟩ := List.mem_map.mp hp
    have := (List.mem_filter.mp he).2
    simpa [isFg] using this
  have hplm : pl ∈ pids := by
    obtain ⟨ys, rfl⟩ := List.getLast?_eq_some_iff.mp hpl; simp
  -- a duplicate-free list of stage pids as long as the list of stages contains every stage (pigeonhole)
  have hall : pl ∈ (s1.pending.filter (isFg pids)).map Ev.pid := by
    have hsubp : (s1.pending.filter (isFg pids)).map Ev.pid ⊆ pids := hsub
    have hlen' : ((s1.pending.filter (isFg pids)).map Ev.pid).length = pids.length := by simpa using hcount
    have hsp := List.subperm_of_subset hnd hsubp
    have := (hsp.perm_of_length_le (by omega))
    exact this.symm.subset hplm
  obtain ⟨el, hel, hep⟩ := List.mem_map.mp hall
  have hel1 : el ∈ s1.pending := (List.mem_filter.mp hel).1
  rw [C02_status s1 gid pids el hne hterm hnd hcount hel1 (by rw [hep, hpl]),
      C02_status s2 gid pids el hne (fun e he => hterm e (hperm.symm.subset he))
        ((hfp.map Ev.pid).nodup_iff.mp hnd) (by rw [← hcount]; exact hfp.length_eq.symm)
        (hperm.subset hel1) (by rw [hep, hpl])]

/-- non-vacuity: three stages 11, 12, 13 finishing in the order 13 (exit 5), 11 (killed by 9), 12 (exit 0) with a
background child's exit in between: the status is 5 -/
example : (waitFg { pending := [.exited 13 5, .exited 99 1, .killed 11 9, .exited 12 0] } 11 [11, 12, 13]).2 = 5 := by decide +kernel

end Cicada.C02
