import Cicada.Thm.C18
import Cicada.Lemmas.Lit
/-!
# C18 — row order, `LIKE` search, rowids after `history delete`

(a) In every table reachable by `history add` / `history delete` the rowids increase with the list order, so reading the
    table by rowid (`orderByRowid`, what an SQL client sees; cicada's own listing orders by its time column) gives the
    submission order (three forms, proved independently; `C18_order` is the exact one).
(b) The table has no AUTOINCREMENT: a new row is numbered one above the newest surviving row, so the rowid of a deleted
    newest row is reused (`ex_rowid_reused`).
(c) `like` with enough fuel is SQLite's LIKE, given as an inductive relation; for a pattern without wildcards
    `history PATTERN` lists the rows in which it occurs, up to ASCII case.
-/
namespace Cicada.Hist

/-! ## (a) order -/

inductive Op where
  /-- `history add LINE` (or the prompt recording a line) in directory `dir` -/
  | add (line dir : Str)
  /-- `history delete ID…` -/
  | del (ids : List Nat)
  deriving Repr, DecidableEq

def applyOp (db : Db) : Op → Db
  | .add line dir => add db line dir
  | .del ids => delete db ids

def runOps (ops : List Op) : Db := ops.foldl applyOp {}

def Sorted (db : Db) : Prop := (db.rows.map (·.rowid)).Pairwise (· < ·)

/-- all rowids are positive (SQLite starts at 1; the listing selects `ROWID > 0`) -/
def Positive (db : Db) : Prop := ∀ r ∈ db.rows, 0 < r.rowid

theorem foldl_max_le_iff (b : Nat) : ∀ (rows : List Row) (m : Nat),
    rows.foldl (fun m r => max m r.rowid) m ≤ b ↔ m ≤ b ∧ ∀ r ∈ rows, r.rowid ≤ b := by
  intro rows
  induction rows with
  | nil => intro m; simp
  | cons a rest ih =>
    intro m
    simp only [List.foldl_cons, ih, Nat.max_le, List.mem_cons, forall_eq_or_imp, and_assoc]

theorem next_fresh (db : Db) : ∀ r ∈ db.rows, r.rowid < db.next := fun r hr =>
  Nat.lt_succ_of_le (((foldl_max_le_iff _ db.rows 0).mp (Nat.le_refl _)).2 r hr)

theorem sorted_add (db : Db) (line dir : Str) (h : Sorted db) : Sorted (add db line dir) := by
  unfold Sorted at *
  simp only [add, List.map_append, List.map_cons, List.map_nil, List.pairwise_append, List.pairwise_cons,
    List.not_mem_nil, false_imp_iff, implies_true, List.Pairwise.nil, and_self, true_and, List.mem_cons, or_false,
    List.mem_map, forall_exists_index, and_imp]
  refine ⟨h, ?_⟩
  rintro a r hr rfl b rfl
  exact next_fresh db r hr

theorem sorted_delete (db : Db) (ids : List Nat) (h : Sorted db) : Sorted (delete db ids) := by
  unfold Sorted at *
  simp only [delete]
  rw [List.pairwise_map] at *
  exact h.filter _

theorem positive_add (db : Db) (line dir : Str) (h : Positive db) : Positive (add db line dir) := by
  intro r hr
  simp only [add, List.mem_append, List.mem_cons, List.not_mem_nil, or_false] at hr
  rcases hr with hr | rfl
  · exact h r hr
  · exact Nat.succ_pos _

theorem positive_delete (db : Db) (ids : List Nat) (h : Positive db) : Positive (delete db ids) := by
  intro r hr
  simp only [delete, List.mem_filter] at hr
  exact h r hr.1

theorem foldl_sorted : ∀ (ops : List Op) (db : Db), Sorted db → Positive db →
    Sorted (ops.foldl applyOp db) ∧ Positive (ops.foldl applyOp db) := by
  intro ops
  induction ops with
  | nil => intro db h p; exact ⟨h, p⟩
  | cons o rest ih =>
    intro db h p
    simp only [List.foldl_cons]
    cases o with
    | add line dir => exact ih _ (sorted_add db line dir h) (positive_add db line dir p)
    | del ids => exact ih _ (sorted_delete db ids h) (positive_delete db ids p)

/-- **rowids increase with the list order** in every reachable table, and are positive; `Db.next` is fresh (that holds of
every table: `next_fresh`) -/
theorem C18_rowids_increasing (ops : List Op) :
    ((runOps ops).rows.map (·.rowid)).Pairwise (· < ·) ∧
    (∀ r ∈ (runOps ops).rows, 0 < r.rowid) ∧
    (∀ r ∈ (runOps ops).rows, r.rowid < (runOps ops).next) := by
  have h := foldl_sorted ops {} (by simp [Sorted]) (by intro r hr; simp at hr)
  exact ⟨h.1, h.2, next_fresh _⟩

/-- the rows as `SELECT … ORDER BY rowid` returns them -/
def orderByRowid (db : Db) : List Row := db.rows.mergeSort (fun a b => decide (a.rowid ≤ b.rowid))

theorem orderBy_of_sorted (db : Db) (h : Sorted db) : orderByRowid db = db.rows := by
  unfold orderByRowid
  apply List.mergeSort_of_pairwise
  unfold Sorted at h
  rw [List.pairwise_map] at h
  exact h.imp (fun hab => by simpa using Nat.le_of_lt hab)

theorem C18_orderBy_rowid (ops : List Op) : orderByRowid (runOps ops) = (runOps ops).rows :=
  orderBy_of_sorted _ (C18_rowids_increasing ops).1

/-- the submitted lines as they are stored (trimmed, KF-C18-trim), in submission order -/
def submitted (ops : List Op) : List Str :=
  ops.filterMap (fun o => match o with | .add line _ => some (trim line) | .del _ => none)

theorem submitted_add (line dir : Str) (ops : List Op) : submitted (.add line dir :: ops) = trim line :: submitted ops := rfl
theorem submitted_del (ids : List Nat) (ops : List Op) : submitted (.del ids :: ops) = submitted ops := rfl

theorem foldl_sublist : ∀ (ops : List Op) (db : Db) (pre : List Str), (db.rows.map (·.inp)).Sublist pre →
    ((ops.foldl applyOp db).rows.map (·.inp)).Sublist (pre ++ submitted ops) := by
  intro ops
  induction ops with
  | nil => intro db pre h; rw [show submitted [] = [] from rfl, List.append_nil]; exact h
  | cons o rest ih =>
    intro db pre h
    rw [List.foldl_cons]
    cases o with
    | add line dir =>
      rw [submitted_add, List.append_cons]
      apply ih
      rw [applyOp, rows_add]
      exact h.append (List.Sublist.refl _)
    | del ids =>
      rw [submitted_del]
      apply ih
      exact (List.filter_sublist.map _).trans h

/-- **submission order, subsequence form**: what a later shell process reads in rowid order is a subsequence of the
submitted (trimmed) lines in submission order — deletions only remove, nothing is reordered or invented -/
theorem C18_order_sublist (ops : List Op) : ((orderByRowid (runOps ops)).map (·.inp)).Sublist (submitted ops) := by
  rw [C18_orderBy_rowid]
  have := foldl_sublist ops {} [] (List.Sublist.refl _)
  rw [List.nil_append] at this
  exact this

theorem foldl_no_delete : ∀ (ops : List Op) (db : Db), (∀ o ∈ ops, ∀ ids, o ≠ .del ids) →
    (ops.foldl applyOp db).rows.map (·.inp) = db.rows.map (·.inp) ++ submitted ops := by
  intro ops
  induction ops with
  | nil => intro db _; exact (List.append_nil _).symm
  | cons o rest ih =>
    intro db h
    cases o with
    | add line dir =>
      rw [List.foldl_cons, ih _ (fun o ho => h o (List.mem_cons_of_mem _ ho)), applyOp, rows_add, submitted_add,
        List.append_assoc, List.singleton_append]
    | del ids => exact absurd rfl (h _ List.mem_cons_self ids)

theorem C18_order_no_delete (ops : List Op) (h : ∀ o ∈ ops, ∀ ids, o ≠ .del ids) :
    (orderByRowid (runOps ops)).map (·.inp) = submitted ops := by
  rw [C18_orderBy_rowid]
  have := foldl_no_delete ops {} h
  rw [show (({} : Db).rows.map (·.inp)) = [] from rfl, List.nil_append] at this
  exact this

/-- reference semantics of the table as the statement describes it: a list of numbered lines in submission order;
a new line is numbered one more than the newest line still there (1 in an empty list); `delete` removes the numbers named -/
def specStep (l : List (Nat × Str)) : Op → List (Nat × Str)
  | .add line _ => l ++ [((l.getLast?.map (·.1)).getD 0 + 1, trim line)]
  | .del ids => l.filter (fun e => !ids.contains e.1)

theorem lt_last_of_sorted {db : Db} (h : Sorted db) {pre : List Row} {r : Row} (hrows : db.rows = pre ++ [r]) :
    ∀ q ∈ pre, q.rowid < r.rowid := by
  unfold Sorted at h
  rw [hrows, List.map_append, List.pairwise_append] at h
  exact fun q hq => h.2.2 _ (List.mem_map_of_mem hq) _ (List.mem_singleton.mpr rfl)

def lastId (db : Db) : Nat := (db.rows.getLast?.map (·.rowid)).getD 0

/-- in a table with increasing rowids the next rowid is one more than the LAST row's (not a high-water mark) -/
theorem next_eq_last (db : Db) (h : Sorted db) : db.next = lastId db + 1 := by
  unfold Db.next lastId
  rcases List.eq_nil_or_concat db.rows with hnil | ⟨pre, r, hrows⟩
  · simp [hnil]
  · rw [List.concat_eq_append] at hrows
    have hmax : pre.foldl (fun m r => max m r.rowid) 0 ≤ r.rowid :=
      (foldl_max_le_iff _ pre 0).mpr ⟨Nat.zero_le _, fun q hq => Nat.le_of_lt (lt_last_of_sorted h hrows q hq)⟩
    rw [hrows]
    simp only [List.foldl_append, List.foldl_cons, List.foldl_nil, List.getLast?_append, List.getLast?_singleton,
      Option.some_or, Option.map_some, Option.getD_some]
    omega

def view (db : Db) : List (Nat × Str) := db.rows.map (fun r => (r.rowid, r.inp))

theorem view_getLast (db : Db) : ((view db).getLast?.map (·.1)).getD 0 = lastId db := by
  unfold view lastId
  rw [List.getLast?_map]
  cases db.rows.getLast? <;> rfl

theorem view_step (db : Db) (h : Sorted db) (o : Op) : view (applyOp db o) = specStep (view db) o := by
  cases o with
  | add line dir =>
    simp only [applyOp, specStep, view_getLast]
    simp only [view, add, List.map_append, List.map_cons, List.map_nil, next_eq_last db h]
  | del ids =>
    simp only [applyOp, specStep, view, delete, List.filter_map]
    rfl

theorem foldl_view : ∀ (ops : List Op) (db : Db), Sorted db →
    view (ops.foldl applyOp db) = ops.foldl specStep (view db) := by
  intro ops
  induction ops with
  | nil => intro db _; rfl
  | cons o rest ih =>
    intro db h
    rw [List.foldl_cons, List.foldl_cons, ← view_step db h o]
    cases o with
    | add line dir => exact ih _ (sorted_add db line dir h)
    | del ids => exact ih _ (sorted_delete db ids h)

/-- **submission order, exact form**: the (rowid, input) pairs read in rowid order are exactly the numbered list of the
reference semantics `specStep` -/
theorem C18_order (ops : List Op) :
    (orderByRowid (runOps ops)).map (fun r => (r.rowid, r.inp)) = ops.foldl specStep [] := by
  rw [C18_orderBy_rowid]
  exact foldl_view ops {} (by simp [Sorted])

/-- adds with blanks around, deletion of a middle row and of the newest row, then another add -/
def exOps : List Op :=
  [.add " a ".toList "/".toList, .add "b".toList "/".toList, .add "c".toList "/t".toList, .del [2], .add "d".toList "/".toList,
   .del [4], .add "e".toList "/".toList]

/-- `C18_order` on `exOps`: the numbered list, the submitted lines, the next rowid -/
example : (orderByRowid (runOps exOps)).map (fun r => (r.rowid, r.inp)) = [(1, ['a']), (3, ['c']), (4, ['e'])] ∧
    submitted exOps = [['a'], ['b'], ['c'], ['d'], ['e']] ∧ (runOps exOps).next = 5 := by
  rw [C18_orderBy_rowid]
  decide +kernel

/-! ## (b) rowids after a deletion -/

/-- **the next rowid is one more than the newest surviving row's** in every reachable table (1 when it is empty) -/
theorem C18_next_eq_last (ops : List Op) : (runOps ops).next = lastId (runOps ops) + 1 :=
  next_eq_last _ (C18_rowids_increasing ops).1

theorem C18_delete_older_keeps_next (db : Db) (h : Sorted db) (pre : List Row) (r : Row) (hrows : db.rows = pre ++ [r])
    (ids : List Nat) (hr : r.rowid ∉ ids) : (delete db ids).next = db.next := by
  rw [next_eq_last _ (sorted_delete db ids h), next_eq_last db h]
  unfold lastId
  simp [delete, hrows, List.filter_append, hr]

/-- **deleting the newest row and adding a line**: the new row is numbered one more than the row BEFORE the deleted one
(1 if there is none), which is never above the deleted rowid; when the deleted row was numbered one more than the row
before it, its rowid is reused (a rowid does not identify a line for ever) -/
theorem C18_delete_then_add (db : Db) (h : Sorted db) (hp : Positive db) (pre : List Row) (r : Row) (hrows : db.rows = pre ++ [r])
    (line dir : Str) :
    (add (delete db [r.rowid]) line dir).rows =
      pre ++ [{ rowid := (pre.getLast?.map (·.rowid)).getD 0 + 1, inp := trim line, dir := dir }] ∧
    (pre.getLast?.map (·.rowid)).getD 0 + 1 ≤ r.rowid := by
  have hlt := lt_last_of_sorted h hrows
  have hdel : (delete db [r.rowid]).rows = pre := by
    simp only [delete, hrows, List.filter_append]
    rw [List.filter_eq_self.mpr, List.filter_eq_nil_iff.mpr, List.append_nil]
    · intro q hq
      simp [List.mem_singleton.mp hq]
    · intro q hq
      simp [Nat.ne_of_lt (hlt q hq)]
  constructor
  · rw [C18_add_appends, next_eq_last _ (sorted_delete db [r.rowid] h)]
    simp only [lastId, hdel]
  · cases hl : pre.getLast? with
    | none => exact hp r (by rw [hrows]; exact List.mem_append_right _ (List.mem_singleton.mpr rfl))
    | some q => exact hlt q (List.mem_of_getLast? hl)

/-- witness: `add a; add b; delete 2; add c` — the line `c` gets rowid 2 again -/
theorem ex_rowid_reused :
    (runOps [.add ['a'] [], .add ['b'] [], .del [2], .add ['c'] []]).rows.map (fun r => (r.rowid, r.inp)) = [(1, ['a']), (2, ['c'])] := by decide +kernel

/-- non-vacuity of `C18_delete_then_add` (reuse) and the other case (no reuse: the row before the newest was deleted earlier) -/
example : let db := runOps [.add ['a'] [], .add ['b'] [], .add ['c'] [], .del [2]]
    db.rows.map (·.rowid) = [1, 3] ∧ (add (delete db [3]) ['d'] []).rows.map (fun r => (r.rowid, r.inp)) = [(1, ['a']), (2, ['d'])] := by decide +kernel

/-! ## (c) LIKE -/


theorem like_zero (p s : Str) : like 0 p s = false := by simp only [like]
theorem like_nil (f : Nat) (s : Str) : like (f+1) [] s = decide (s = []) := by
  simp only [like]
theorem like_pct_nil (f : Nat) (pr : Str) : like (f+1) ('%' :: pr) [] = like f pr [] := by
  simp only [like, Bool.or_false]
theorem like_pct_cons (f : Nat) (pr : Str) (d : Char) (sr : Str) :
    like (f+1) ('%' :: pr) (d :: sr) = (like f pr (d :: sr) || like f ('%' :: pr) sr) := by
  simp only [like]
theorem like_und_nil (f : Nat) (pr : Str) : like (f+1) ('_' :: pr) [] = false := by
  simp only [like]
theorem like_und_cons (f : Nat) (pr : Str) (d : Char) (sr : Str) : like (f+1) ('_' :: pr) (d :: sr) = like f pr sr := by
  simp only [like]
theorem like_chr (f : Nat) (c : Char) (pr s : Str) (h1 : c ≠ '%') (h2 : c ≠ '_') :
    like (f+1) (c :: pr) s = match s with
      | [] => false
      | d :: sr => decide (lowerA c = lowerA d) && like f pr sr := by
  conv => lhs; unfold like
  split
  · rename_i h; cases h
  · rename_i h; simp at h; exact absurd h.1 h1
  · rename_i h; simp at h; exact absurd h.1 h2
  · rename_i h; simp at h; obtain ⟨rfl, rfl⟩ := h; rfl

/-- SQLite's LIKE (default settings, no ESCAPE) as a relation: `%` stands for any sequence of characters (also the empty
one), `_` for exactly one character, every other pattern character for itself up to ASCII case -/
inductive Matches : Str → Str → Prop
  | nil : Matches [] []
  | pct (pr s1 s2 : Str) : Matches pr s2 → Matches ('%' :: pr) (s1 ++ s2)
  | und (pr : Str) (d : Char) (sr : Str) : Matches pr sr → Matches ('_' :: pr) (d :: sr)
  | chr (c : Char) (pr : Str) (d : Char) (sr : Str) : c ≠ '%' → c ≠ '_' → lowerA c = lowerA d → Matches pr sr →
      Matches (c :: pr) (d :: sr)

theorem matches_pct_iff (pr s : Str) : Matches ('%' :: pr) s ↔ ∃ s1 s2, s = s1 ++ s2 ∧ Matches pr s2 := by
  constructor
  · intro h
    cases h with
    | pct _ s1 s2 hm => exact ⟨s1, s2, rfl, hm⟩
    | chr _ _ d sr h1 => exact absurd rfl h1
  · rintro ⟨s1, s2, rfl, h⟩
    exact .pct pr s1 s2 h

theorem matches_chr_inv {c : Char} {pr s : Str} (h1 : c ≠ '%') (h2 : c ≠ '_') (h : Matches (c :: pr) s) :
    ∃ d sr, s = d :: sr ∧ lowerA c = lowerA d ∧ Matches pr sr := by
  cases h with
  | pct => exact absurd rfl h1
  | und => exact absurd rfl h2
  | chr _ _ d sr _ _ hl hm => exact ⟨d, sr, rfl, hl, hm⟩

theorem matches_nil_inv {s : Str} (h : Matches [] s) : s = [] := by
  cases h; rfl

theorem like_sound (f : Nat) (p s : Str) : like f p s = true → Matches p s := by
  induction f, p, s using like.induct with
  | case1 => intro h; cases (like_zero _ _).symm.trans h
  | case2 f s =>
    rw [like_nil, decide_eq_true_eq]
    rintro rfl
    exact .nil
  | case3 f s pr ih1 ih2 =>
    intro h
    cases s with
    | nil => exact .pct pr [] [] (ih1 (by rwa [like_pct_nil] at h))
    | cons d sr =>
      rw [like_pct_cons, Bool.or_eq_true] at h
      rcases h with h | h
      · exact .pct pr [] (d :: sr) (ih1 h)
      · obtain ⟨s1, s2, rfl, hm⟩ := (matches_pct_iff _ _).mp (ih2 sr h)
        exact .pct pr (d :: s1) s2 hm
  | case4 f pr => intro h; cases (like_und_nil f pr).symm.trans h
  | case5 f pr d sr ih => intro h; exact .und pr d sr (ih (by rwa [like_und_cons] at h))
  | case6 f c pr h1 h2 => intro h; rw [like_chr _ _ _ _ h1 h2] at h; cases h
  | case7 f c pr h1 h2 d sr ih =>
    intro h
    simp only [like_chr _ _ _ _ h1 h2, Bool.and_eq_true, decide_eq_true_eq] at h
    exact .chr c pr d sr h1 h2 h.1 (ih h.2)

theorem like_complete {p s : Str} (h : Matches p s) : ∀ f, p.length + s.length + 1 ≤ f → like f p s = true := by
  have pos : ∀ {f n : Nat}, n + 1 ≤ f → ∃ f', f = f' + 1 := fun {f n} hf => ⟨f - 1, by omega⟩
  induction h with
  | nil =>
    intro f hf
    obtain ⟨f', rfl⟩ := pos hf
    rfl
  | pct pr s1 s2 hm ih =>
    -- the `%` eats `s1` one character per unit of fuel, then hands over to `pr`
    induction s1 with
    | nil =>
      intro f hf
      obtain ⟨f', rfl⟩ := pos hf
      simp only [List.length_cons, List.nil_append] at hf ⊢
      cases s2 with
      | nil => rw [like_pct_nil]; exact ih f' (by omega)
      | cons d sr => rw [like_pct_cons, ih f' (by omega)]; rfl
    | cons d s1 ih1 =>
      intro f hf
      obtain ⟨f', rfl⟩ := pos hf
      simp only [List.length_cons, List.cons_append] at hf ⊢
      rw [like_pct_cons, ih1 f' (by simp only [List.length_cons]; omega), Bool.or_true]
  | und pr d sr hm ih =>
    intro f hf
    obtain ⟨f', rfl⟩ := pos hf
    simp only [List.length_cons] at hf
    rw [like_und_cons]
    exact ih f' (by omega)
  | chr c pr d sr h1 h2 hl hm ih =>
    intro f hf
    obtain ⟨f', rfl⟩ := pos hf
    simp only [List.length_cons] at hf
    simp only [like_chr _ _ _ _ h1 h2, ih f' (by omega), hl, decide_true, Bool.and_self]

/-- **`like` is SQLite's LIKE** whenever the fuel is at least `|pattern| + |string| + 1` -/
theorem C18_like_matches (f : Nat) (p s : Str) (hf : p.length + s.length + 1 ≤ f) : like f p s = true ↔ Matches p s :=
  ⟨like_sound f p s, fun h => like_complete h f hf⟩

/-- no wildcard of LIKE in the search pattern (not `lit`, the SQL string literal) -/
def literal (pat : Str) : Bool := pat.all (fun c => c != '%' && c != '_')

/-- `pat` occurs in `s` as a contiguous substring, up to ASCII case -/
def Occurs (pat s : Str) : Prop := ∃ a m b, s = a ++ m ++ b ∧ m.map lowerA = pat.map lowerA

def prefixCI (pat s : Str) : Bool := (s.take pat.length).map lowerA == pat.map lowerA

/-- executable form of `Occurs` -/
def occursB (pat : Str) : Str → Bool
  | [] => prefixCI pat []
  | d :: sr => prefixCI pat (d :: sr) || occursB pat sr

theorem prefixCI_iff (pat s : Str) : prefixCI pat s = true ↔ ∃ m b, s = m ++ b ∧ m.map lowerA = pat.map lowerA := by
  unfold prefixCI
  simp only [beq_iff_eq]
  constructor
  · intro h
    exact ⟨s.take pat.length, s.drop pat.length, (List.take_append_drop _ _).symm, h⟩
  · rintro ⟨m, b, rfl, hm⟩
    have hl : m.length = pat.length := by simpa using congrArg List.length hm
    rw [← hl, List.take_left']
    · exact hm
    · rfl

theorem occursB_iff_suffix (pat s : Str) : occursB pat s = true ↔ ∃ t, t <:+ s ∧ prefixCI pat t = true := by
  induction s with
  | nil => simp [occursB]
  | cons d sr ih => simp only [occursB, Bool.or_eq_true, ih, List.suffix_cons_iff, or_and_right, exists_or, exists_eq_left]

theorem occursB_iff (pat s : Str) : occursB pat s = true ↔ Occurs pat s := by
  rw [occursB_iff_suffix]
  constructor
  · rintro ⟨t, ⟨a, rfl⟩, ht⟩
    obtain ⟨m, b, rfl, hm⟩ := (prefixCI_iff _ _).mp ht
    exact ⟨a, m, b, (List.append_assoc ..).symm, hm⟩
  · rintro ⟨a, m, b, rfl, hm⟩
    exact ⟨m ++ b, ⟨a, (List.append_assoc ..).symm⟩, (prefixCI_iff _ _).mpr ⟨m, b, rfl, hm⟩⟩

theorem matches_literal (pat rest : Str) (hl : literal pat = true) : ∀ s,
    Matches (pat ++ rest) s ↔ ∃ m b, s = m ++ b ∧ m.map lowerA = pat.map lowerA ∧ Matches rest b := by
  induction pat with
  | nil =>
    intro s
    constructor
    · intro h; exact ⟨[], s, rfl, rfl, h⟩
    · rintro ⟨m, b, rfl, hm, h⟩
      have : m = [] := by simpa using hm
      subst this; exact h
  | cons c pat ih =>
    intro s
    simp only [literal, List.all_cons, Bool.and_eq_true, bne_iff_ne, ne_eq] at hl
    obtain ⟨⟨h1, h2⟩, hl'⟩ := hl
    have ih' := ih (by simpa [literal] using hl')
    constructor
    · intro h
      obtain ⟨d, sr, rfl, hcd, hm⟩ := matches_chr_inv h1 h2 h
      obtain ⟨m, b, rfl, hmm, hb⟩ := (ih' sr).mp hm
      exact ⟨d :: m, b, rfl, by simp [hcd, hmm], hb⟩
    · rintro ⟨m, b, rfl, hm, hb⟩
      cases m with
      | nil => simp at hm
      | cons d m =>
        simp only [List.map_cons, List.cons.injEq] at hm
        exact .chr c _ d _ h1 h2 hm.1.symm ((ih' _).mpr ⟨m, b, rfl, hm.2, hb⟩)

theorem matches_contains (pat s : Str) (hl : literal pat = true) : Matches ('%' :: (pat ++ ['%'])) s ↔ Occurs pat s := by
  rw [matches_pct_iff]
  constructor
  · rintro ⟨a, t, rfl, h⟩
    obtain ⟨m, b, rfl, hm, _⟩ := (matches_literal pat ['%'] hl t).mp h
    exact ⟨a, m, b, by simp, hm⟩
  · rintro ⟨a, m, b, rfl, hm⟩
    exact ⟨a, m ++ b, by simp, (matches_literal pat ['%'] hl _).mpr ⟨m, b, rfl, hm, by simpa using Matches.pct [] b [] .nil⟩⟩

/-- **the search pattern of `history PATTERN`**: for a pattern without `%` and `_`, `like` on `%pat%` says whether `pat`
occurs in `s`; the fuel bound is the length of `%pat%` + the length of the string + 1 -/
theorem C18_like_contains (pat s : Str) (hl : literal pat = true) (f : Nat) (hf : pat.length + s.length + 3 ≤ f) :
    like f ('%' :: (pat ++ ['%'])) s = true ↔ Occurs pat s := by
  rw [C18_like_matches f _ s (by simp; omega), matches_contains pat s hl]

/-- **`history PATTERN` lists exactly the rows whose input contains the pattern** (up to ASCII case), in table order,
for every pattern without `%` and `_` (the empty pattern lists everything) -/
theorem C18_list_contains (db : Db) (pat : Str) (hl : literal pat = true) :
    list db pat = (db.rows.filter (fun r => occursB pat r.inp)).map (·.inp) := by
  unfold list
  congr 1
  apply List.filter_congr
  intro r _
  by_cases hp : pat = []
  · subst hp
    have : occursB [] r.inp = true := (occursB_iff _ _).mpr ⟨[], [], r.inp, by simp, rfl⟩
    simp [this]
  · have h := C18_like_contains pat r.inp hl (2 * (pat.length + r.inp.length) + 4) (by omega)
    rw [← occursB_iff] at h
    simp only [hp, decide_false, Bool.false_or]
    exact Bool.eq_iff_iff.mpr h

theorem C18_list_mem (db : Db) (pat : Str) (hl : literal pat = true) (x : Str) :
    x ∈ list db pat ↔ ∃ r ∈ db.rows, r.inp = x ∧ Occurs pat x := by
  rw [C18_list_contains db pat hl]
  simp only [List.mem_map, List.mem_filter, occursB_iff]
  constructor
  · rintro ⟨r, ⟨hr, ho⟩, rfl⟩; exact ⟨r, hr, rfl, ho⟩
  · rintro ⟨r, hr, rfl, ho⟩; exact ⟨r, ⟨hr, ho⟩, rfl⟩

example : literal "Ab c".toList = true ∧ occursB "Ab c".toList "xxaB Cyy".toList = true ∧
    like (2 * (4 + 8) + 4) ('%' :: ("Ab c".toList ++ ['%'])) "xxaB Cyy".toList = true ∧
    like (2 * (4 + 7) + 4) ('%' :: ("Ab c".toList ++ ['%'])) "xxaBCyy".toList = false := by
      lit_lists
      decide +kernel

/-- wildcards in the pattern are wildcards (the reason for the guard): `history a_c` also lists `abc` -/
example : list (runOps [.add "abc".toList [], .add "a_c".toList [], .add "ac".toList []]) "a_c".toList = ["abc".toList, "a_c".toList] := by
  lit_lists
  decide +kernel

end Cicada.Hist

