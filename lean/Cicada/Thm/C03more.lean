import Cicada.Thm.C03
/-!
# C03 — background markers, comments, `$?` along the list

Segments that end in a background `&` (`C03_background_amp`; `a &&& b` is the one misreading,
`C03_finding_amp_before_and`) and a `#` comment after the last segment (`C03_comment`), both outside `guard`; and the
status every segment sees, prefix by prefix (`C03_status_dollar_q`).
-/
namespace Cicada.C03
open Cicada Cicada.L2C

/-! ## background markers -/

/-- **C03, background markers.**  Segments may end in a `&` glued to their end (`a &; b &`, `a &|| b`,
also before a comment), provided the next operator is not `&&`: the `&` stays in the segment text handed to
`run_proc` (`items`: the trimmed raw segment), the items are exactly those of the program, and the list runs
as the reference semantics prescribes.  `guardBg` is weaker than `guard`, so this contains `C03_partial`. -/
theorem C03_background_amp {σ : Type} (run : σ → Str → σ × Int) (sh : σ) (p : Prog) (hg : guardBg p = true) :
    lineToCmds (render p) = trim p.first :: itemsRest p.rest ∧ Holds03 run sh p :=
  ⟨lineToCmds_render_bg p hg, holds_of_guardBg run sh p hg⟩

/-- background markers and a comment after the last segment together: `a &; b & # c` -/
theorem C03_background_amp_comment (p : Prog) (hg : guardBg p = true) (n : Nat) (c : Str) :
    lineToCmds (render p ++ commentTail n c) = lineToCmds (render p) := by
  rw [lineToCmds_render_tail p hg _ (inertTail_comment n c) (by cases n <;> simp [commentTail, List.replicate]),
    lineToCmds_render_bg p hg]

/-- the excluded case is a genuine misreading: `a &&& b` is not "`a &` and-then `b`" but `a && & b` -/
theorem C03_finding_amp_before_and :
    let p : Prog := { first := "a &".toList, rest := [(.and, " b".toList)] }
    render p = "a &&& b".toList ∧ guardBg p = false ∧
    lineToCmds (render p) = ["a".toList, "&&".toList, "& b".toList] ∧
    lineToCmds (render p) ≠ items p := by
  lit_lists
  decide +kernel

/-- non-vacuity: `sleep 1 &; b &|| c | d & ; e &` — not inside `guard`, inside `guardBg`; the items keep the `&` -/
example :
    let p : Prog := { first := "sleep 1 &".toList,
                      rest := [(.semi, " b &".toList), (.or, " c | d & ".toList), (.semi, " e &".toList)] }
    guard p = false ∧ guardBg p = true ∧
    render p = "sleep 1 &; b &|| c | d & ; e &".toList ∧
    lineToCmds (render p) = ["sleep 1 &".toList, ";".toList, "b &".toList, "||".toList, "c | d &".toList, ";".toList, "e &".toList] := by
  lit_lists
  decide +kernel

/-! ## comments -/

/-- **C03, comments.** For every list-safe program `p`, every number `n ≥ 0` of blanks and every text `c`
(any characters at all, operators, quotes, even newlines): the line `p␣…␣#c` is split into exactly the items of
`p`.  `n = 0` is the `#` glued to the last word: `echo a#b` runs `echo a`. -/
theorem C03_comment (p : Prog) (hg : guard p = true) (n : Nat) (c : Str) :
    lineToCmds (render p ++ commentTail n c) = lineToCmds (render p) :=
  C03_background_amp_comment p (guardBg_of_guard p hg) n c

/-- with a comment after it, a list-safe program runs the same pipelines, with the same statuses and final state,
as the reference semantics prescribes for the program alone -/
theorem C03_comment_holds {σ : Type} (run : σ → Str → σ × Int) (sh : σ) (p : Prog) (hg : guard p = true)
    (n : Nat) (c : Str) :
    runCommandLine run sh (render p ++ commentTail n c) = runCommandLine run sh (render p) ∧
    ofLoop (runCommandLine run sh (render p ++ commentTail n c)) = specList run sh p := by
  have e : runCommandLine run sh (render p ++ commentTail n c) = runCommandLine run sh (render p) := by
    simp only [runCommandLine, C03_comment p hg n c]
  exact ⟨e, by rw [e]; exact C03_partial run sh p hg⟩

/-- a `#` inside quotes or after a backslash is not a comment: it is already inside the guard of `C03_partial` -/
example : guard { first := "a 'q # x' ".toList, rest := [(.semi, " y \\# z ".toList)] } = true := by
  lit_lists
  decide +kernel

/-- non-vacuity: `false && a ; b # && c ; 'd` and `false && a ; b#x` -/
example : guard wProg = true ∧
    render wProg ++ commentTail 1 " && c ; 'd".toList = "false && a ; b # && c ; 'd".toList ∧
    lineToCmds (render wProg ++ commentTail 1 " && c ; 'd".toList) =
      ["false".toList, "&&".toList, "a".toList, ";".toList, "b".toList] ∧
    lineToCmds (render wProg ++ commentTail 0 "x".toList) =
      ["false".toList, "&&".toList, "a".toList, ";".toList, "b".toList] := by
  lit_lists
  decide +kernel

/-! ## `$?` along the list -/

/-- the program cut after its first `k` operators -/
def Prog.pref (p : Prog) (k : Nat) : Prog := { first := p.first, rest := p.rest.take k }

/-- status of the most recently executed pipeline of a trace -/
def lastStatus (tr : List (Str × Int)) : Int := ((tr.getLast?).map (·.2)).getD 0

theorem guard_pref (p : Prog) (k : Nat) (hg : guard p = true) : guard (p.pref k) = true := by
  simp only [guard, Bool.and_eq_true, List.all_eq_true, Prog.pref] at hg ⊢
  exact ⟨hg.1, fun x hx => hg.2 x (List.mem_of_mem_take hx)⟩

theorem specRest_append {σ} (run : σ → Str → σ × Int) (l1 l2 : List (ListOp × Str)) :
    ∀ r : Res σ, specRest run r (l1 ++ l2) = specRest run (specRest run r l1) l2 := by
  induction l1 with
  | nil => intro r; rfl
  | cons x xs ih =>
    intro r
    obtain ⟨o, seg⟩ := x
    simp only [List.cons_append, specRest_cons]
    split <;> exact ih _

theorem specRest_status {σ} (run : σ → Str → σ × Int) (l : List (ListOp × Str)) :
    ∀ r : Res σ, r.trace ≠ [] → r.status = lastStatus r.trace →
      (specRest run r l).trace ≠ [] ∧ (specRest run r l).status = lastStatus (specRest run r l).trace := by
  induction l with
  | nil => intro r h1 h2; exact ⟨h1, h2⟩
  | cons x xs ih =>
    intro r h1 h2
    obtain ⟨o, seg⟩ := x
    rw [specRest_cons]
    split
    · exact ih _ (by simp) (by simp [lastStatus])
    · exact ih _ h1 h2

theorem specList_status {σ} (run : σ → Str → σ × Int) (sh : σ) (p : Prog) :
    (specList run sh p).trace ≠ [] ∧ (specList run sh p).status = lastStatus (specList run sh p).trace :=
  specRest_status run _ _ (by simp) (by simp [lastStatus])

theorem specList_pref {σ} (run : σ → Str → σ × Int) (sh : σ) (p : Prog) (k : Nat) :
    specList run sh p = specRest run (specList run sh (p.pref k)) (p.rest.drop k) := by
  simp only [specList, Prog.pref, ← specRest_append, List.take_append_drop]

theorem specList_pref_succ {σ} (run : σ → Str → σ × Int) (sh : σ) (p : Prog) (k : Nat) (o : ListOp) (seg : Str)
    (h : p.rest[k]? = some (o, seg)) :
    specList run sh (p.pref (k + 1)) = specRest run (specList run sh (p.pref k)) [(o, seg)] := by
  simp only [specList, Prog.pref, ← specRest_append, List.take_add_one, h, Option.toList]

/-- **C03, `$?`.** For a list-safe program and every `k`: let `st` be the loop state after the prefix
`first (op seg)^k` has been run.  Then
1. `st.status` — the `previous_status` (`$?`) the next segment sees — is the status returned by the most
   recently **executed** pipeline (the last entry of the trace, which is never empty);
2. the whole program is the rest of the program continued from exactly `st`;
3. the next segment `(o, seg)` runs iff `o` and `st.status` say so; if it is skipped, shell state, status and
   trace are unchanged; if it runs, it runs in `st.sh`, its status becomes the new status, and the trace grows
   by exactly this entry. -/
theorem C03_status_dollar_q {σ : Type} (run : σ → Str → σ × Int) (sh : σ) (p : Prog) (hg : guard p = true) (k : Nat) :
    let st := runCommandLine run sh (render (p.pref k))
    st.trace ≠ [] ∧ st.status = lastStatus st.trace ∧
    ofLoop (runCommandLine run sh (render p)) = specRest run (ofLoop st) (p.rest.drop k) ∧
    ∀ o seg, p.rest[k]? = some (o, seg) →
      let st' := runCommandLine run sh (render (p.pref (k + 1)))
      if runsAfter o st.status then
        st'.sh = (run st.sh (trim seg)).1 ∧ st'.status = (run st.sh (trim seg)).2 ∧
        st'.trace = st.trace ++ [(trim seg, (run st.sh (trim seg)).2)]
      else st'.sh = st.sh ∧ st'.status = st.status ∧ st'.trace = st.trace := by
  intro st
  have hk : ofLoop st = specList run sh (p.pref k) := C03_partial run sh (p.pref k) (guard_pref p k hg)
  -- keeps the loop states opaque, so that rewriting does not unfold the loop on the rendered text
  clear_value st
  have hinv := specList_status run sh (p.pref k)
  rw [← hk] at hinv
  refine ⟨hinv.1, hinv.2, ?_, ?_⟩
  · rw [hk]
    exact (C03_partial run sh p hg).trans (specList_pref run sh p k)
  · intro o seg hseg st'
    have hk' : ofLoop st' = specList run sh (p.pref (k + 1)) :=
      C03_partial run sh (p.pref (k + 1)) (guard_pref p (k + 1) hg)
    clear_value st'
    rw [specList_pref_succ run sh p k o seg hseg, ← hk, specRest_cons, show (ofLoop st).status = st.status from rfl] at hk'
    -- either way the three fields are read off `hk'`; only the `if` needs resolving
    by_cases hr : runsAfter o st.status = true
    · rw [if_pos hr] at hk' ⊢
      exact ⟨congrArg Res.sh hk', congrArg Res.status hk', congrArg Res.trace hk'⟩
    · rw [if_neg hr] at hk' ⊢
      exact ⟨congrArg Res.sh hk', congrArg Res.status hk', congrArg Res.trace hk'⟩

/-- the final status: `$?` after the line is the status of the last pipeline that was executed -/
theorem C03_status_final {σ : Type} (run : σ → Str → σ × Int) (sh : σ) (p : Prog) (hg : guard p = true) :
    (runCommandLine run sh (render p)).trace ≠ [] ∧
    (runCommandLine run sh (render p)).status = lastStatus (runCommandLine run sh (render p)).trace := by
  have h := specList_status run sh p
  rw [← show ofLoop _ = _ from C03_partial run sh p hg] at h
  exact h

/-- non-vacuity: in `false && a ; b || c` the segment `a` is skipped and leaves `$?` = 1 for `;`-`b`;
`b` runs and returns 0, so `c` is skipped and the final `$?` is 0, the status of `b` -/
example :
    let p : Prog := { first := "false ".toList, rest := [(.and, " a ".toList), (.semi, " b ".toList), (.or, " c".toList)] }
    guard p = true ∧
    (runCommandLine wRun () (render (p.pref 1))).status = 1 ∧
    (runCommandLine wRun () (render (p.pref 1))).trace = [("false".toList, 1)] ∧
    (runCommandLine wRun () (render (p.pref 2))).trace = [("false".toList, 1), ("b".toList, 0)] ∧
    (runCommandLine wRun () (render p)).trace = [("false".toList, 1), ("b".toList, 0)] ∧
    (runCommandLine wRun () (render p)).status = 0 := by decide +kernel

end Cicada.C03
