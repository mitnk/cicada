import Cicada.Spec.C13
import Cicada.Thm.C10line
import Cicada.Lemmas.Lit
/-!
# C13 — results of expansions are data and are never re-read as shell syntax

`C13_dq_var` : a plain command whose arguments are double-quoted `"$N"` / `"${N}"` deliveries is planned as
one foreground stage without any redirection, and **each value arrives as exactly one argument, verbatim**
— for every environment and every value (any characters: `| & ; < > # * { } ~`, blanks, `$`, …) that does
not itself spell a command substitution (no backquote pair, no `$(…)`).  The excluded values are a genuine
defect of the tree — a value `` `cmd` `` or `$(cmd)` *is executed*, even inside double quotes — shown
below (`C13_finding_value_substitution`) and listed as KF-C13-value-substitution.
Unquoted deliveries: values that spell an operator (`|`, `>`, `a>b`, a last `&`, `<`) do create pipes,
files and background jobs — KF-C13-unquoted-operator (computed below for `|` and `a>b`).
-/
namespace Cicada.C13
open Cicada Cicada.PassLemmas Cicada.TokLemmas

def dqVars (ds : List Delivery) : Bool :=
  ds.all (fun d => d.dq && (d.form = .var || d.form = .braced) && C10.isIdent d.name)

def tokIn (d : Delivery) : Tok :=
  (['"'], match d.form with
    | .var => '$' :: d.name
    | .braced => '$' :: '{' :: (d.name ++ ['}'])
    | .dollarParen => '$' :: '(' :: (d.name ++ [')'])
    | .backquote => '`' :: (d.name ++ ['`']))

def tokOut (se : SubstEnv) (d : Delivery) : Tok := (['"'], d.value se)

/-- a value that does not itself spell a command substitution -/
def valueOk (v : Str) : Bool := (matchBackquote v).isNone && !shouldDoDollar v

theorem expandEnv_var (se : SubstEnv) (d : Delivery) (q : C10.Quote) (hq : q ≠ .sq)
    (hf : d.form = .var ∨ d.form = .braced) (hn : C10.isIdent d.name = true) :
    expandEnv se.env [(q.sep, (tokIn d).2)] = [(q.sep, d.value se)] := by
  rcases hf with hf | hf
  · have := C10.expandEnv_token se.env q [.var d.name] (by simp [C10.wordOk, C10.segOk, hn, C10.render])
    simpa [C10.specToken, hq, C10.render, C10.Seg.render, C10.specExpand, C10.Seg.value, tokIn, hf, Delivery.value]
      using this
  · have := C10.expandEnv_token se.env q [.braced d.name] (by simp [C10.wordOk, C10.segOk, hn])
    simpa [C10.specToken, hq, C10.render, C10.Seg.render, C10.specExpand, C10.Seg.value, tokIn, hf, Delivery.value]
      using this

theorem expandEnv_deliveries (se : SubstEnv) (ds : List Delivery) (h : dqVars ds = true) :
    expandEnv se.env (ds.map tokIn) = ds.map (tokOut se) := by
  simp only [dqVars, List.all_eq_true, Bool.and_eq_true, Bool.or_eq_true, decide_eq_true_eq] at h
  exact C10.expandEnv_map se.env _ _ ds (fun d hd => expandEnv_var se d .dq (by decide) (h d hd).1.2 (h d hd).2)

/-- **C13, double-quoted variables.**  Fuel: one unit per delivery for the walk of a substitution pass, the two of
`doExpansion_prog`, and a spare one. -/
theorem C13_dq_var (se : SubstEnv) (p : Str) (ds : List Delivery) (f : Nat)
    (hp : C01.plainWord p = true) (ha : lookup se.env.aliases p = none) (hx : p ≠ "xargs".toList)
    (hd : dqVars ds = true) (hv : ∀ d ∈ ds, valueOk (d.value se) = true) (hf : ds.length + 3 < f) :
    doExpansion se f (([], p) :: ds.map tokIn) = .ok (([], p) :: ds.map (tokOut se)) ∧
    planOfTokens (([], p) :: ds.map (tokOut se)) =
      .ok { commands := [{ tokens := ([], p) :: ds.map (tokOut se), redirectsTo := [], redirectFrom := none }],
            envs := [], background := false } := by
  obtain ⟨hw, hl⟩ : p.all wordChar = true ∧ p.any isAlphaA = true := by
    simp only [C01.plainWord, Bool.and_eq_true] at hp
    exact ⟨by simpa [wordChar] using hp.2, hp.1⟩
  have hin : ∀ t ∈ ds.map tokIn, t.1 ≠ [] := by
    intro t ht; obtain ⟨d, _, rfl⟩ := List.mem_map.mp ht; simp [tokIn]
  have hout : ∀ t ∈ ds.map (tokOut se), t.1 ≠ [] := by
    intro t ht; obtain ⟨d, _, rfl⟩ := List.mem_map.mp ht; simp [tokOut]
  have hns : ∀ t ∈ ds.map (tokOut se), NoSubst t := by
    intro t ht
    obtain ⟨d, hd1, rfl⟩ := List.mem_map.mp ht
    have := hv d hd1
    simp only [valueOk, Bool.and_eq_true, Option.isNone_iff_eq_none, Bool.not_eq_true'] at this
    exact Or.inr ⟨Or.inl rfl, this.1, this.2⟩
  refine ⟨?_, plan_args p _ hw (fun t ht => Or.inl (hout t ht))⟩
  refine doExpansion_prog_noSubst se p _ _ _ f hw hl ha hx ?_ (expandAliasGo_false_inert _ _ hin)
    (fun t ht => Or.inl (hin t ht)) (expandEnv_deliveries se ds hd) (fun t ht => Or.inl (hout t ht))
    (expandGlobGo_gate se.env _ (fun t ht => Or.inl (hout t ht))) hns (fun t ht => Or.inl (hout t ht))
    (by simp only [List.length_map]; omega)
  -- not the line `export PROMPT=…`: the first delivery token begins with `$`
  intro t ht _ h3
  obtain ⟨d, _, rfl⟩ := List.mem_map.mp (List.mem_of_mem_head? ht)
  revert h3
  simp only [tokIn]
  cases d.form <;> simp [startsWith]

/-! ### findings (kernel-checked on the model; the check confirms them on the implementation) -/

def wEnv : SubstEnv :=
  { env := { vars := [("X".toList, "`id`".toList), ("P".toList, "|".toList), ("G".toList, "a>b".toList)] },
    cmdOut := fun k => if k = "id".toList then "uid=0".toList else [] }

/-- `X='`id`'; prog "$X"` runs `id`: the value is executed (KF-C13-value-substitution) -/
theorem C13_finding_value_substitution :
    doExpansion wEnv 20 [([], "prog".toList), (['"'], "$X".toList)] = .ok [([], "prog".toList), (['"'], "uid=0".toList)] := by
  decide +kernel

/-- `P='|'; prog $P q` is planned as a two-stage pipeline (KF-C13-unquoted-operator) -/
theorem C13_finding_unquoted_pipe :
    (planOf wEnv 20 "prog $P q".toList).map (fun r => r.toOption.map (fun p => p.commands.length)) = .ok (some 2) := by
  decide +kernel

/-- `G='a>b'; prog $G` redirects stdout to file `b` -/
theorem C13_finding_unquoted_redirect :
    (planOf wEnv 20 "prog $G".toList).map (fun r => r.toOption.map (fun p => p.commands.map (·.redirectsTo))) =
      .ok (some [[("1".toList, ">".toList, "b".toList)]]) := by
  rfl

/-! ### non-vacuity: values full of metacharacters are inside the proved domain -/
example : valueOk "a>b | c & ; < x # $Y ${Z} * {p,q} ~ $(".toList = true := by
  lit_lists
  decide +kernel

end Cicada.C13
