import Cicada.Lemmas.SubstRT
import Cicada.Lemmas.Lit
/-!
# C11 at the level of the passes — the backquote form at full generality, the `$(…)` form, the greedy reading

Vocabulary (`Cicada/Lemmas/SubstRT.lean`): the `…Log` functions are the model's substitution functions with the list of
texts handed to `runInner` returned beside the result (`C11_log_erasure`), so "exactly once, left to right" is the
statement that this list equals the commands written in the word; `Answers se F run cmds` is the oracle hypothesis
(`C11_backquote_plain` discharges it for plain program words; the model trims BOTH ends of an output,
KF-C11-trim-both-ends); `bqWord lit [(c₁,l₁),…]` = lit `c₁` l₁ … and `bqResult run` the same with the answers in place.

Outside what is proved here: an unquoted piece word through the whole of `doExpansion` (brace / glob / range passes
see it), a piece word that holds `$`, nested substitutions, commands other than plain words for the discharged
oracle (`Answers` is a hypothesis there), and the tokenizer's side (a word that STARTS with a backquote becomes a
whole-token substitution, KF-C11-backquote-suffix; `C11_backquote_pass` covers that token shape as `DotTok.whole`).
-/
namespace Cicada.C11
open Cicada Cicada.PassLemmas Cicada.TokLemmas Cicada.SubstRT

theorem C11_log_erasure (se : SubstEnv) :
    (∀ f item tok, (dotLoopLog se f item tok).1 = substDotLoop se f item tok) ∧
    (∀ f idx ts, (dotGoLog se f idx ts).1 = substDotGo se f idx ts) ∧
    (∀ f line, (dollarLoopLog se f line).1 = substDollarLoop se f line) ∧
    (∀ f idx ts, (dollarGoLog se f idx ts).1 = substDollarGo se f idx ts) :=
  ⟨dotLoopLog_fst se, dotGoLog_fst se, dollarLoopLog_fst se, dollarGoLog_fst se⟩

/-- **the embedded-backquote loop** on lit₀ `c₁` lit₁ … `cₙ` litₙ : every literal kept, every command replaced
by the oracle's answer (nothing when rejected), the commands queried once each, left to right; outputs arbitrary.
Guard `bqGuard`: literals free of backquotes; commands non-empty and free of backquotes; everything after the
closing backquote of the first command free of newlines (lit₀ and c₁ may contain newlines). Fuel `≥ n + F + 1`. -/
theorem C11_backquote_loop (se : SubstEnv) (F : Nat) (run : Str → Option Str) (lit : Str) (ps : List (Str × Str))
    (f : Nat) (hg : bqGuard lit ps = true) (ha : Answers se F run (ps.map (·.1))) (hf : ps.length + F + 1 ≤ f) :
    substDotLoop se f [] (bqWord lit ps) = .ok (bqResult run lit ps) ∧
    (dotLoopLog se f [] (bqWord lit ps)).2 = ps.map (·.1) := by
  simp only [bqGuard, Bool.and_eq_true] at hg
  have h := dotLoopLog_pieces se F run ps lit [] f hg.1.1 hg.1.2 hg.2 ha hf
  rw [← dotLoopLog_fst, h]
  simp

/-- **the backquote pass, one word**: a double-quoted (`dq = true`) or unquoted token whose text is a piece word
with at least one command, among tokens neither pass touches: exactly one update — that token, with
`bqResult` — and the query log is the word's commands in order. -/
theorem C11_backquote_word (se : SubstEnv) (F : Nat) (run : Str → Option Str) (pre post : List Tok) (dq : Bool)
    (lit : Str) (ps : List (Str × Str)) (f idx : Nat)
    (hpre : ∀ t ∈ pre, NoSubst t) (hpost : ∀ t ∈ post, NoSubst t)
    (hne : ps ≠ []) (hg : bqGuard lit ps = true) (ha : Answers se F run (ps.map (·.1)))
    (hf : pre.length + post.length + ps.length + F + 3 ≤ f) :
    substDotGo se f idx (pre ++ (if dq then ['"'] else [], bqWord lit ps) :: post)
      = .ok [(idx + pre.length, bqResult run lit ps)] ∧
    (dotGoLog se f idx (pre ++ (if dq then ['"'] else [], bqWord lit ps) :: post)).2 = ps.map (·.1) := by
  have h := dotGoLog_toks se F run (pre.map .skip ++ DotTok.word dq lit ps :: post.map .skip) f idx
    (by
      simp only [List.forall_mem_append, List.forall_mem_map, List.forall_mem_cons]
      exact ⟨fun x hx => noSubst_dotSkip x (hpre x hx), ⟨hne, hg⟩, fun x hx => noSubst_dotSkip x (hpost x hx)⟩)
    (by
      simpa [List.flatMap_append, dot_queries_skip, DotTok.queries] using ha)
    (by
      simp [List.flatMap_append, dot_queries_skip, DotTok.queries]
      omega)
  simp only [List.map_append, List.map_cons, dot_render_skip, DotTok.render, List.flatMap_append,
    List.flatMap_cons, dot_queries_skip, DotTok.queries, List.nil_append, List.append_nil,
    dotUpdates_skip_append, dotUpdates, dotUpdates_skips] at h
  rw [← dotGoLog_fst, h]
  simp

/-- `applyUpdates_single` with the index as `C11_backquote_word` produces it (`idx = 0`) -/
theorem C11_backquote_word_applied (pre post : List Tok) (sep w r : Str) :
    doExpansion.applyUpdates (pre ++ (sep, w) :: post) [(0 + pre.length, r)] = pre ++ (sep, r) :: post := by
  simpa using applyUpdates_single pre post sep w r

/-- **the whole backquote pass**, any number of substitution tokens of the three shapes (`DotTok`: skipped token,
piece word in double quotes or unquoted, whole-token substitution): updates are exactly `dotUpdates`, and every
command of the line is queried exactly once, in reading order. -/
theorem C11_backquote_pass (se : SubstEnv) (F : Nat) (run : Str → Option Str) (ts : List DotTok) (f idx : Nat)
    (hok : ∀ t ∈ ts, t.Ok) (ha : Answers se F run (ts.flatMap DotTok.queries))
    (hf : ts.length + (ts.flatMap DotTok.queries).length + F + 2 ≤ f) :
    substDotGo se f idx (ts.map DotTok.render) = .ok (dotUpdates run idx ts) ∧
    (dotGoLog se f idx (ts.map DotTok.render)).2 = ts.flatMap DotTok.queries := by
  have h := dotGoLog_toks se F run ts f idx hok ha hf
  rw [← dotGoLog_fst, h]
  simp

/-- the backquote loop with the oracle discharged: the commands are plain program words (not aliases, not `xargs`); each is
replaced by `trim (cmdOut c)` — trimmed on BOTH ends, KF-C11-trim-both-ends — whatever the outputs are. -/
theorem C11_backquote_plain (se : SubstEnv) (lit : Str) (ps : List (Str × Str)) (f : Nat)
    (hg : bqGuard lit ps = true) (hc : ∀ c ∈ ps.map (·.1), PlainCmd se c) (hf : ps.length + 6 ≤ f) :
    substDotLoop se f [] (bqWord lit ps) = .ok (bqResult (fun c => some (trim (se.cmdOut c))) lit ps) ∧
    (dotLoopLog se f [] (bqWord lit ps)).2 = ps.map (·.1) :=
  C11_backquote_loop se 5 _ lit ps f hg (answers_plain se _ hc) (by omega)

/-- outside the guard (finding): a newline after the first closing backquote — in a later literal or command —
makes the anchored matcher fail, so the word is not touched at all and no command runs -/
theorem C11_finding_backquote_newline_tail (lit c tl : Str) (hl : noBq lit = true) (hc : noBq c = true)
    (hn : noNl tl = false) :
    matchBackquote (lit ++ '`' :: (c ++ '`' :: tl)) = none := by
  obtain ⟨_, a2⟩ := span_bq lit (c ++ '`' :: tl) (noBq_mem hl)
  obtain ⟨_, b2⟩ := span_bq c tl (noBq_mem hc)
  simp only [matchBackquote, ne_eq, decide_not]
  rw [a2]
  simp only
  rw [b2]
  simp [hn]

/-- **one `$(…)` word among untouched tokens**: the token `p$(cmd)q` (any separator but `'` and `\`) is replaced
by `p ++ answer ++ q`, no other token is updated, and the oracle is queried exactly once, with `cmd`.
Guards: `dolGuard` on the word; on the answer only that the rewritten word does not call for another
substitution (`shouldDoDollar … = false` — the loop's own exit test; without it the loop goes on,
KF-C11-output-rescanned). -/
theorem C11_dollar_single_exact (se : SubstEnv) (F : Nat) (run : Str → Option Str) (pre post : List Tok)
    (sep p cmd q : Str) (f idx : Nat)
    (hpre : ∀ t ∈ pre, NoSubst t) (hpost : ∀ t ∈ post, NoSubst t)
    (hs1 : sep ≠ ['\'']) (hs2 : sep ≠ ['\\']) (hg : dolGuard p cmd q = true)
    (ha : Answers se F run [cmd])
    (hstop : shouldDoDollar (p ++ (run cmd).getD [] ++ q) = false)
    (hf : pre.length + post.length + F + 4 ≤ f) :
    substDollarGo se f idx (pre ++ (sep, dolWord p cmd q) :: post)
      = .ok (some [(idx + pre.length, p ++ (run cmd).getD [] ++ q)]) ∧
    (dollarGoLog se f idx (pre ++ (sep, dolWord p cmd q) :: post)).2 = [cmd] := by
  have h := dollarGoLog_toks se F run (pre.map .skip ++ DolTok.word sep p cmd q :: post.map .skip) f idx
    (by
      simp only [List.forall_mem_append, List.forall_mem_map, List.forall_mem_cons]
      exact ⟨fun x hx => noSubst_dolSkip x (hpre x hx), ⟨hs1, hs2, hg, hstop⟩, fun x hx => noSubst_dolSkip x (hpost x hx)⟩)
    (by
      simpa [List.flatMap_append, dol_queries_skip, DolTok.queries] using ha)
    (by simp; omega)
  simp only [List.map_append, List.map_cons, dol_render_skip, DolTok.render, List.flatMap_append,
    List.flatMap_cons, dol_queries_skip, DolTok.queries, List.nil_append, List.append_nil,
    dolUpdates_skip_append, dolUpdates, dolUpdates_skips] at h
  rw [← dollarGoLog_fst, h]
  simp

/-- sufficient, input-only form of the exit test: no `$` in the answer nor in `q` (`p` has none by `dolGuard`) -/
theorem C11_dollar_stop_of_no_dollar (p out q : Str) (hp : ∀ c ∈ p, c ≠ '$') (ho : ∀ c ∈ out, c ≠ '$')
    (hq : ∀ c ∈ q, c ≠ '$') : shouldDoDollar (p ++ out ++ q) = false := by
  apply shouldDoDollar_false
  intro c hc
  simp only [List.mem_append] at hc
  rcases hc with (hc | hc) | hc
  · exact hp c hc
  · exact ho c hc
  · exact hq c hc

theorem C11_dollar_pass (se : SubstEnv) (F : Nat) (run : Str → Option Str) (ts : List DolTok) (f idx : Nat)
    (hok : ∀ t ∈ ts, t.Ok run) (ha : Answers se F run (ts.flatMap DolTok.queries))
    (hf : ts.length + F + 3 ≤ f) :
    substDollarGo se f idx (ts.map DolTok.render) = .ok (some (dolUpdates run idx ts)) ∧
    (dollarGoLog se f idx (ts.map DolTok.render)).2 = ts.flatMap DolTok.queries := by
  have h := dollarGoLog_toks se F run ts f idx hok ha hf
  rw [← dollarGoLog_fst, h]
  simp

theorem C11_dollar_word_exact (se : SubstEnv) (F : Nat) (run : Str → Option Str) (p cmd q : Str) (f : Nat)
    (hg : dolGuard p cmd q = true) (ha : Answers se F run [cmd])
    (hstop : shouldDoDollar (p ++ (run cmd).getD [] ++ q) = false) (hf : F + 2 ≤ f) :
    substDollarLoop se f (dolWord p cmd q) = .ok (some (p ++ (run cmd).getD [] ++ q)) ∧
    (dollarLoopLog se f (dolWord p cmd q)).2 = [cmd] := by
  have h := dollarLoopLog_word se F run p cmd q f hg ha hstop hf
  rw [← dollarLoopLog_fst, h]
  simp

def greedyCmd (a mid b : Str) : Str := a ++ ')' :: (mid ++ '$' :: '(' :: b)

theorem greedy_word (pre a mid b post : Str) :
    pre ++ '$' :: '(' :: (a ++ ')' :: (mid ++ '$' :: '(' :: (b ++ ')' :: post))) = dolWord pre (greedyCmd a mid b) post := by
  simp [dolWord, greedyCmd, List.append_assoc]

/-- **the greedy reading, search level** (no known-finding class): in `pre$(a)mid$(b)post` the search `\$\((.+)\)` takes ONE command
`a)mid$(b` — for all texts on one line with `pre` free of `$` and `post` free of `)` -/
theorem C11_finding_greedy (pre a mid b post : Str) (hpre : ∀ c ∈ pre, c ≠ '$')
    (ha : noNl a = true) (hm : noNl mid = true) (hb : noNl b = true) (hpn : noNl post = true)
    (hp : ∀ c ∈ post, c ≠ ')') :
    findDollarGroup [] (pre ++ '$' :: '(' :: (a ++ ')' :: (mid ++ '$' :: '(' :: (b ++ ')' :: post))))
      = some (pre, greedyCmd a mid b, post) := by
  rw [greedy_word]
  have hcn : noNl (greedyCmd a mid b) = true := by
    simp only [noNl, greedyCmd, List.all_append, List.all_cons, Bool.and_eq_true, decide_eq_true_eq] at ha hm hb ⊢
    exact ⟨ha, by decide, hm, by decide, by decide, hb⟩
  exact C11_find pre (greedyCmd a mid b) post hpre (by simp [greedyCmd]) hcn hpn hp

/-- **the greedy reading, loop level**: the loop asks the oracle ONCE, for `a)mid$(b`, and splices that answer between
`pre` and `post`: neither `a` nor `b` is run, `mid` is lost -/
theorem C11_finding_greedy_loop (se : SubstEnv) (F : Nat) (run : Str → Option Str) (pre a mid b post : Str) (f : Nat)
    (hg : dolGuard pre (greedyCmd a mid b) post = true) (ha : Answers se F run [greedyCmd a mid b])
    (hstop : shouldDoDollar (pre ++ (run (greedyCmd a mid b)).getD [] ++ post) = false) (hf : F + 2 ≤ f) :
    substDollarLoop se f (pre ++ '$' :: '(' :: (a ++ ')' :: (mid ++ '$' :: '(' :: (b ++ ')' :: post))))
      = .ok (some (pre ++ (run (greedyCmd a mid b)).getD [] ++ post)) ∧
    (dollarLoopLog se f (pre ++ '$' :: '(' :: (a ++ ')' :: (mid ++ '$' :: '(' :: (b ++ ')' :: post))))).2
      = [greedyCmd a mid b] := by
  rw [greedy_word]
  exact C11_dollar_word_exact se F run pre (greedyCmd a mid b) post f hg ha hstop hf

theorem noSubst_prog (prog : Str) (hw : prog.all wordChar = true) : NoSubst ([], prog) :=
  Or.inr ⟨Or.inr rfl, matchBackquote_none _ (word_no prog hw '`' (by decide)),
    shouldDoDollar_false _ (word_no prog hw '$' (by decide))⟩

/-- **pass level, all of `doExpansion`**: the line is a plain program word (not an alias, not `xargs`, not `export`),
then inert quoted tokens, one double-quoted piece word, more inert tokens.  Every expansion pass before and after
the two substitution passes leaves the line alone, the backquote pass rewrites the one token, the `$(…)` pass then
finds nothing: the expanded line is the same line with `bqResult` in that token.
Extra guards, both needed: the word holds no `$` (else `expand_env` rewrites the inner command text before it runs,
KF-C11-inner-preexpanded); the rewritten token does not call for a `$(…)` substitution (else the later pass runs the
output, KF-C11-output-rescanned). -/
theorem C11_backquote_expansion (se : SubstEnv) (F : Nat) (run : Str → Option Str) (prog : Str) (pre post : List Tok)
    (lit : Str) (ps : List (Str × Str)) (f : Nat)
    (hw : prog.all wordChar = true) (hl : prog.any isAlphaA = true) (hal : lookup se.env.aliases prog = none)
    (hx : prog ≠ "xargs".toList) (hex : prog ≠ "export".toList)
    (hpre : ∀ t ∈ pre, Inert t) (hpost : ∀ t ∈ post, Inert t)
    (hne : ps ≠ []) (hg : bqGuard lit ps = true) (hnd : ∀ c ∈ bqWord lit ps, c ≠ '$')
    (ha : Answers se F run (ps.map (·.1)))
    (hstop : shouldDoDollar (bqResult run lit ps) = false)
    (hf : pre.length + post.length + ps.length + F + 6 ≤ f) :
    doExpansion se f (([], prog) :: (pre ++ (['"'], bqWord lit ps) :: post))
      = .ok (([], prog) :: (pre ++ (['"'], bqResult run lit ps) :: post)) := by
  obtain ⟨f, rfl⟩ := fuel_split (b := 1) hf
  have hprog := noSubst_prog prog hw
  have hpre' : ∀ t ∈ ([], prog) :: pre, NoSubst t :=
    List.forall_mem_cons.mpr ⟨hprog, fun t ht => inert_noSubst t (hpre t ht)⟩
  have hpost' : ∀ t ∈ post, NoSubst t := fun t ht => inert_noSubst t (hpost t ht)
  have hdot := (C11_backquote_word se F run (([], prog) :: pre) post true lit ps f 0 hpre' hpost' hne hg ha
    (by simp only [List.length_cons]; omega)).1
  simp only [if_true, List.cons_append, List.length_cons, Nat.zero_add] at hdot
  have hdol : substDollarGo se f 0 (([], prog) :: (pre ++ (['"'], bqResult run lit ps) :: post)) = .ok (some []) := by
    refine substDollarGo_of se _ f 0 (by simp; omega) ?_
    simp only [List.forall_mem_cons, List.forall_mem_append]
    exact ⟨noSubst_dolSkip _ hprog, fun t ht => noSubst_dolSkip _ (inert_noSubst t (hpre t ht)), Or.inr (Or.inr hstop),
      fun t ht => noSubst_dolSkip _ (hpost' t ht)⟩
  rw [doExpansion_one_dq se prog pre post _ _ _ f hw hl hal hx hex hpre hpost hnd hdot hdol]
  simp only [Option.map_some, Option.getD_some, doExpansion.applyUpdates, List.foldl_nil]
  rw [expandBraceRange_id prog _ (tagged_of_inert pre post _ hpre hpost) (word_no prog hw '{' (by decide))]

/-- **finding (KF-C11-output-rescanned), for all inputs in the guard**: if what the backquote pass produced spells
`p$(d)q`, the `$(…)` pass that follows runs `d` — the output of a command is executed.  Same line shape as
`C11_backquote_expansion`; the expanded token is `p ++ answer(d) ++ q`, not the spliced text. -/
theorem C11_finding_output_rerun (se : SubstEnv) (F : Nat) (run : Str → Option Str) (prog : Str) (pre post : List Tok)
    (lit : Str) (ps : List (Str × Str)) (p d q : Str) (f : Nat)
    (hw : prog.all wordChar = true) (hl : prog.any isAlphaA = true) (hal : lookup se.env.aliases prog = none)
    (hx : prog ≠ "xargs".toList) (hex : prog ≠ "export".toList)
    (hpre : ∀ t ∈ pre, Inert t) (hpost : ∀ t ∈ post, Inert t)
    (hne : ps ≠ []) (hg : bqGuard lit ps = true) (hnd : ∀ c ∈ bqWord lit ps, c ≠ '$')
    (ha : Answers se F run (d :: ps.map (·.1)))
    (hspell : bqResult run lit ps = dolWord p d q) (hdg : dolGuard p d q = true)
    (hstop : shouldDoDollar (p ++ (run d).getD [] ++ q) = false)
    (hf : pre.length + post.length + ps.length + F + 6 ≤ f) :
    doExpansion se f (([], prog) :: (pre ++ (['"'], bqWord lit ps) :: post))
      = .ok (([], prog) :: (pre ++ (['"'], p ++ (run d).getD [] ++ q) :: post)) := by
  obtain ⟨f, rfl⟩ := fuel_split (b := 1) hf
  have hprog := noSubst_prog prog hw
  have hpre' : ∀ t ∈ ([], prog) :: pre, NoSubst t :=
    List.forall_mem_cons.mpr ⟨hprog, fun t ht => inert_noSubst t (hpre t ht)⟩
  have hpost' : ∀ t ∈ post, NoSubst t := fun t ht => inert_noSubst t (hpost t ht)
  have hdot := (C11_backquote_word se F run (([], prog) :: pre) post true lit ps f 0 hpre' hpost' hne hg
    (ha.mono (by intro x hx; exact List.mem_cons_of_mem _ hx))
    (by simp only [List.length_cons]; omega)).1
  simp only [if_true, List.cons_append, List.length_cons, Nat.zero_add] at hdot
  have hdol := (C11_dollar_single_exact se F run (([], prog) :: pre) post ['"'] p d q f 0 hpre' hpost'
    (by decide) (by decide) hdg (ha.mono (by intro x hx; simp at hx; subst hx; simp)) hstop
    (by simp only [List.length_cons]; omega)).1
  simp only [List.cons_append, List.length_cons, Nat.zero_add] at hdol
  rw [← hspell] at hdol
  rw [doExpansion_one_dq se prog pre post _ _ _ f hw hl hal hx hex hpre hpost hnd hdot hdol]
  have happ := applyUpdates_single (([], prog) :: pre) post ['"'] (bqResult run lit ps) (p ++ (run d).getD [] ++ q)
  simp only [List.cons_append, List.length_cons] at happ
  simp only [Option.map_some, Option.getD_some]
  rw [happ, expandBraceRange_id prog _ (tagged_of_inert pre post _ hpre hpost) (word_no prog hw '{' (by decide))]

/-- an environment whose commands print blanks, a backquote command, a `$(…)` text: outputs are as hostile as can be.
The fuels in the witnesses below are arbitrary values above the theorems' bounds. -/
def seW : SubstEnv := { env := {}, cmdOut := fun k => "  `".toList ++ k ++ "` $(x) \n".toList }

example : bqGuard "x\ny ".toList [("pw\nd".toList, " b".toList), ("ls".toList, [])] = true := by
  lit_lists
  decide +kernel
example : bqGuard "a".toList [("pwd".toList, "b".toList), ("ls".toList, "c".toList)] = true := by
  lit_lists
  decide +kernel
example : bqWord "a".toList [("pwd".toList, "b".toList), ("ls".toList, "c".toList)] = "a`pwd`b`ls`c".toList := by
  lit_lists
  decide +kernel

/-- witness: outputs that spell a backquote command (and `$(x)`, and blanks) go in literally — trimmed on both ends —
and are not re-scanned by the backquote loop; each command is queried once, in order -/
theorem C11_backquote_output_literal :
    substDotLoop seW 8 [] "a`pwd`b`ls`c".toList = .ok "a`pwd` $(x)b`ls` $(x)c".toList ∧
    (dotLoopLog seW 8 [] "a`pwd`b`ls`c".toList).2 = ["pwd".toList, "ls".toList] := by
  lit_lists
  decide +kernel

example : substDotGo seW 12 0 [([], "echo".toList), (['"'], "a`pwd`b`ls`c".toList)]
    = .ok [(1, "a`pwd` $(x)b`ls` $(x)c".toList)] := by
  lit_lists
  decide +kernel

example : matchBackquote "a`pwd`b\n".toList = none := by
  lit_lists
  decide +kernel

example : dolGuard "a=".toList "pwd".toList "b".toList = true := by
  lit_lists
  decide +kernel
example : dolWord "a=".toList "pwd".toList "b".toList = "a=$(pwd)b".toList := by
  lit_lists
  decide +kernel
def seV : SubstEnv := { env := {}, cmdOut := fun k => " <".toList ++ k ++ "> \n".toList }
example : substDollarGo seV 11 0 [([], "echo".toList), (['"'], "a=$(pwd)b".toList), (['\''], "$(ls)".toList)]
    = .ok (some [(1, "a=<pwd>b".toList)]) := by
  lit_lists
  decide +kernel

example : findDollarGroup [] "x$(echo a)-$(echo b)y".toList = some ("x".toList, "echo a)-$(echo b".toList, "y".toList) := by
  lit_lists
  decide +kernel
example : dolGuard "x".toList (greedyCmd "echo a".toList "-".toList "echo b".toList) "y".toList = true := by
  lit_lists
  decide +kernel

example : doExpansion seV 20 [([], "echo".toList), (['\''], "x".toList), (['"'], "a`pwd`b`ls`c".toList)]
    = .ok [([], "echo".toList), (['\''], "x".toList), (['"'], "a<pwd>b<ls>c".toList)] := by
  lit_lists
  decide +kernel

/-- an environment where `pwd` prints the text `$(ls)` -/
def seR : SubstEnv := { env := {}, cmdOut := fun k => if k = "pwd".toList then " $(ls)\n".toList else "<".toList ++ k ++ ">".toList }

example : doExpansion seR 20 [([], "echo".toList), (['"'], "a`pwd`b".toList)]
    = .ok [([], "echo".toList), (['"'], "a<ls>b".toList)] := by
  lit_lists
  decide +kernel

end Cicada.C11
