import Cicada.Thm.C10
import Cicada.Lemmas.Passes
import Cicada.Lemmas.Lit
/-!
# C10 at the LINE level: `parse_line` followed by `expand_env` (and by all of `do_expansion`) on `prog W1 … Wn`

`C10_full_holds` speaks about the text of one word, `C10_token_dq` about one token (with the gate `env_in_token`
as a hypothesis).  Here the two are composed with the tokenizer (`parseLine_renderLine`), and the gate hypothesis goes:
for a well-formed word the gate is true exactly when the word holds a reference (`gate_eq_hasRef`: the three
"assignment of a substitution" regexes and the `='…$x…'` rule can never fire on a well-formed word).  `C10_line` is the
result for `expand_env`, `C10_line_expansion` for the whole of `doExpansion` when the EXPANDED tokens are inert for the
later passes (`inertTok`).

Guard (`lineGuard`, decidable, input only): `prog` is a plain word with a letter; every word is `wordOk`; the
literals of an unquoted word hold none of blank `"` `'` backquote `\` `|` `(` `)` `#`, and the word is not empty;
the literals of a double-quoted word hold no `"` and no `\`; (`wordOk` already bans `$`, `'`, backquote in
literals).
-/
namespace Cicada.C10
open Cicada Cicada.PL Cicada.TokLemmas Cicada.PassLemmas

/-- characters allowed in an unquoted word: anything but blank, the three quotes, `\`, `|`, parentheses and `#` -/
def bareChar (c : Char) : Bool :=
  !(c = ' ' || c = '"' || c = '\\' || c = '|' || c = '(' || c = ')' || c = '#' || c = '\'' || c = '`')
/-- characters allowed between double quotes: anything but `"` and `\` -/
def dqChar (c : Char) : Bool := !(c = '"' || c = '\\')
def sqChar (c : Char) : Bool := !(c = '\'')

def Seg.litAll (p : Char → Bool) : Seg → Bool
  | .lit s => s.all p
  | _ => true

def Quote.charOk : Quote → Char → Bool
  | .none => bareChar
  | .dq => dqChar
  | .sq => sqChar

/-- one argument word: well-formed segments, literals within the character class of the quoting style, an
unquoted word is not empty -/
def argOk (a : Quote × List Seg) : Bool :=
  wordOk a.2 && a.2.all (Seg.litAll a.1.charOk) && (a.1 != .none || !a.2.isEmpty)

def renderArg (a : Quote × List Seg) : Str := a.1.sep ++ render a.2 ++ a.1.sep

def argsText (args : List (Quote × List Seg)) : Str := (args.map (fun a => ' ' :: renderArg a)).flatten

def renderLine (prog : Str) (args : List (Quote × List Seg)) : Str := prog ++ argsText args

def lineGuard (prog : Str) (args : List (Quote × List Seg)) : Bool :=
  prog.all wordChar && prog.any isAlphaA && args.all argOk

theorem ident_all (p : Char → Bool) (hname : ∀ c, isNameChar c = true → p c = true) (n : Str) (h : isIdent n = true) :
    n.all p = true := by
  obtain ⟨_, _, _, _, hall⟩ := ident_facts n h
  exact List.all_eq_true.mpr (fun x hx => hname x (hall x hx))

theorem render_all (p : Char → Bool) (hname : ∀ c, isNameChar c = true → p c = true)
    (h1 : p '$' = true) (h2 : p '{' = true) (h3 : p '}' = true) (h4 : p '?' = true)
    (w : List Seg) (hok : wordOk w = true) (hl : w.all (Seg.litAll p) = true) : (render w).all p = true := by
  induction w with
  | nil => rfl
  | cons s ss ih =>
    simp only [wordOk, Bool.and_eq_true] at hok
    simp only [List.all_cons, Bool.and_eq_true] at hl
    have ih' := ih hok.2 hl.2
    rw [render_cons, List.all_append, ih', Bool.and_true]
    cases s with
    | lit t => exact hl.1
    | var n =>
      have hs := hok.1
      simp only [segOk, Bool.and_eq_true] at hs
      simp [Seg.render, h1, ident_all p hname n hs.1]
    | braced n =>
      have hs := hok.1
      simp only [segOk] at hs
      simp [Seg.render, h1, h2, h3, ident_all p hname n hs]
    | status => simp [Seg.render, h1, h4]
    | pid => simp [Seg.render, h1]

theorem nameChar_classes (c : Char) (h : isNameChar c = true) : bareChar c = true ∧ dqChar c = true ∧ sqChar c = true := by
  have ne : ∀ x : Char, isNameChar x = false → c ≠ x := by
    intro x hx e; subst e; rw [hx] at h; exact Bool.noConfusion h
  have e1 := ne ' ' (by decide); have e2 := ne '"' (by decide); have e3 := ne '\\' (by decide)
  have e4 := ne '|' (by decide); have e5 := ne '(' (by decide); have e6 := ne ')' (by decide)
  have e7 := ne '#' (by decide); have e8 := ne '\'' (by decide); have e9 := ne '`' (by decide)
  simp [bareChar, dqChar, sqChar, e1, e2, e3, e4, e5, e6, e7, e8, e9]

theorem render_charOk (q : Quote) (w : List Seg) (hok : wordOk w = true) (hl : w.all (Seg.litAll q.charOk) = true) :
    (render w).all q.charOk = true := by
  cases q with
  | none => exact render_all _ (fun c h => (nameChar_classes c h).1) (by decide) (by decide) (by decide) (by decide) w hok hl
  | dq => exact render_all _ (fun c h => (nameChar_classes c h).2.1) (by decide) (by decide) (by decide) (by decide) w hok hl
  | sq => exact render_all _ (fun c h => (nameChar_classes c h).2.2) (by decide) (by decide) (by decide) (by decide) w hok hl

theorem bareChar_facts {c : Char} (h : bareChar c = true) :
    c ≠ ' ' ∧ c ≠ '"' ∧ c ≠ '\\' ∧ c ≠ '|' ∧ c ≠ '(' ∧ c ≠ ')' ∧ c ≠ '#' ∧ c ≠ '\'' ∧ c ≠ '`' := by
  refine ⟨?_, ?_, ?_, ?_, ?_, ?_, ?_, ?_, ?_⟩ <;> (intro e; subst e; revert h; decide)

theorem step_clean_bare (r : List Tok) (hd : Bool) (c : Char) (n : Option Char) (h : bareChar c = true) :
    step (clean r hd) c n = inW r [c] (hd || (c = '$')) := by
  by_cases hdl : c = '$' <;> simp [step, clean, inW, isQ, bareChar_facts h, hdl]

theorem step_inW_bare (r : List Tok) (t : Str) (hd : Bool) (c : Char) (n : Option Char) (h : bareChar c = true) :
    step (inW r t hd) c n = inW r (t ++ [c]) (hd || (c = '$')) := by
  by_cases hdl : c = '$' <;> simp [step, stepMid, stepTail, inW, isQ, bareChar_facts h, hdl]

theorem go_bare (w : Str) : ∀ (r : List Tok) (t : Str) (hd : Bool) (rest : Str), w.all bareChar = true →
    go (inW r t hd) (w ++ rest) = go (inW r (t ++ w) (hd || w.any (· = '$'))) rest := by
  induction w with
  | nil => intro r t hd rest _; simp
  | cons c cs ih =>
    intro r t hd rest h
    simp only [List.all_cons, Bool.and_eq_true] at h
    simp only [List.cons_append, go]
    rw [step_inW_bare r t hd c _ h.1, ih _ _ _ _ h.2]
    simp [List.append_assoc, Bool.or_assoc]

theorem dqChar_facts {w : Str} (h : w.all dqChar = true) : ∀ c ∈ w, c ≠ '\\' ∧ c ≠ '"' := by
  intro c hc
  have := List.all_eq_true.mp h c hc
  exact ⟨fun e => by subst e; exact absurd this (by decide), fun e => by subst e; exact absurd this (by decide)⟩

theorem go_dq_body_dollar (body : Str) : ∀ (r : List Tok) (t : Str) (hd : Bool) (rest : Str),
    body.all dqChar = true →
    go (inQ r '"' t hd) (body ++ rest) = go (inQ r '"' (t ++ body) (hd || body.any (· = '$'))) rest :=
  fun r t hd rest h => go_dq_body_any body r t hd rest (dqChar_facts h)

theorem readsAs_bare (w : Str) (hne : w ≠ []) (h : w.all bareChar = true) : ReadsAs w ([], w) := by
  intro r hd rest
  obtain ⟨c, cs, rfl⟩ := List.exists_cons_of_ne_nil hne
  simp only [List.all_cons, Bool.and_eq_true] at h
  refine ⟨_, _, ?_, done_inW r (c :: cs) ((hd || (c = '$')) || cs.any (· = '$')) hne⟩
  simp only [List.cons_append, go]
  rw [step_clean_bare r hd c _ h.1, go_bare cs _ _ _ _ h.2]
  rfl

theorem render_ne_nil (w : List Seg) (hok : wordOk w = true) (hne : w ≠ []) : render w ≠ [] := by
  cases w with
  | nil => exact absurd rfl hne
  | cons a as =>
    simp only [wordOk, Bool.and_eq_true] at hok
    obtain ⟨d, ds, e⟩ := render_cons_nonempty a as _ hok.1
    rw [e]; simp

theorem readsAs_arg (a : Quote × List Seg) (hok : argOk a = true) : ReadsAs (renderArg a) (a.1.sep, render a.2) := by
  obtain ⟨q, w⟩ := a
  simp only [argOk, Bool.and_eq_true, Bool.or_eq_true, bne_iff_ne, ne_eq, Bool.not_eq_true',
    List.isEmpty_eq_false_iff] at hok
  obtain ⟨⟨hw, hl⟩, hne⟩ := hok
  have hch := render_charOk q w hw hl
  cases q with
  | none =>
    have := readsAs_bare (render w) (render_ne_nil w hw (hne.resolve_left (fun h => h rfl))) hch
    simpa [renderArg, Quote.sep] using this
  | dq => exact readsAs_dq (render w) (dqChar_facts hch)
  | sq =>
    refine readsAs_sq (render w) (fun c hc e => ?_)
    have := (List.all_eq_true.mp hch) c hc
    subst e
    exact absurd this (by decide)

theorem parseLine_renderLine (prog : Str) (args : List (Quote × List Seg)) (hg : lineGuard prog args = true) :
    parseLine (renderLine prog args) = ([], prog) :: args.map (fun a => (a.1.sep, render a.2)) := by
  simp only [lineGuard, Bool.and_eq_true] at hg
  exact parseLine_prog_args renderArg _ prog args hg.1.1 hg.1.2
    (fun a ha => readsAs_arg a (List.all_eq_true.mp hg.2 a ha))

def Seg.isSpecial : Seg → Bool
  | .status => true
  | .pid => true
  | _ => false

def Seg.isNamed : Seg → Bool
  | .var _ => true
  | .braced _ => true
  | _ => false

theorem reDollarSpecial_append_right (a b : Str) (h : reDollarSpecial b = true) : reDollarSpecial (a ++ b) = true := by
  induction a with
  | nil => exact h
  | cons c cs ih => simp [reDollarSpecial, ih]

theorem reDollarName_append_right (a b : Str) (h : reDollarName b = true) : reDollarName (a ++ b) = true := by
  induction a with
  | nil => exact h
  | cons c cs ih => simp [reDollarName, ih]

theorem wordOk_mem (w : List Seg) (hok : wordOk w = true) (s : Seg) (hs : s ∈ w) : ∃ after, segOk after s = true := by
  induction w with
  | nil => simp at hs
  | cons x xs ih =>
    simp only [wordOk, Bool.and_eq_true] at hok
    rcases List.mem_cons.mp hs with rfl | h
    · exact ⟨_, hok.1⟩
    · exact ih hok.2 h

/-- a regex that searches (`happ`) and matches every text beginning with the rendering of a segment of kind `k`
matches the rendering of a word that holds such a segment -/
theorem render_search (re : Str → Bool) (k : Seg → Bool) (happ : ∀ a b, re b = true → re (a ++ b) = true)
    (w : List Seg) (hk : ∀ s ∈ w, k s = true → ∀ rest, re (s.render ++ rest) = true) (h : w.any k = true) :
    re (render w) = true := by
  induction w with
  | nil => simp at h
  | cons s ss ih =>
    rw [render_cons]
    cases hs : k s with
    | true => exact hk s (by simp) hs _
    | false =>
      refine happ _ _ (ih (fun x hx => hk x (by simp [hx])) ?_)
      simpa [hs] using h

theorem special_gate (w : List Seg) (h : w.any Seg.isSpecial = true) : reDollarSpecial (render w) = true := by
  refine render_search _ _ reDollarSpecial_append_right w (fun s _ hs rest => ?_) h
  cases s with
  | status => simp [Seg.render, reDollarSpecial]
  | pid => simp [Seg.render, reDollarSpecial]
  | _ => simp [Seg.isSpecial] at hs

theorem named_gate (w : List Seg) (hok : wordOk w = true) (h : w.any Seg.isNamed = true) :
    reDollarName (render w) = true := by
  refine render_search _ _ reDollarName_append_right w (fun s hs hn rest => ?_) h
  obtain ⟨after, hseg⟩ := wordOk_mem w hok s hs
  cases s with
  | var n =>
    simp only [segOk, Bool.and_eq_true] at hseg
    obtain ⟨c, cs, rfl, hc, _⟩ := ident_facts n hseg.1
    simp [Seg.render, reDollarName, hc]
  | braced n =>
    simp only [segOk] at hseg
    obtain ⟨c, cs, rfl, hc, _⟩ := ident_facts n hseg
    simp [Seg.render, reDollarName, hc]
  | _ => simp [Seg.isNamed] at hn

/-- no `$` is directly followed by `(` ("no dollar-paren"): the common reason why none of the `$(`-regexes
(`reWholeDollarParen`, `reAssignDollarParen`, `reDollarParen`) matches -/
def ndp : Str → Bool
  | [] => true
  | c :: cs => !(c = '$' && cs.head? = some '(') && ndp cs

theorem ndp_skip (s rest : Str) (h : ∀ c ∈ s, c ≠ '$') : ndp (s ++ rest) = ndp rest := by
  induction s with
  | nil => rfl
  | cons c cs ih =>
    have hc := h c (by simp)
    simp [ndp, hc, ih (fun x hx => h x (by simp [hx]))]

theorem ndp_ref (d : Char) (s rest : Str) (hd : d ≠ '(') (hd2 : d ≠ '$') (h : ∀ c ∈ s, c ≠ '$') :
    ndp ('$' :: d :: (s ++ rest)) = ndp rest := by
  have := ndp_skip (d :: s) rest (by intro c hc; simp at hc; rcases hc with rfl | hc; exact hd2; exact h c hc)
  simp only [List.cons_append] at this
  simp [ndp, hd, ← this]

theorem nameChar_ne (c : Char) (h : isNameChar c = true) : c ≠ '$' ∧ c ≠ '(' ∧ c ≠ '\'' ∧ c ≠ '`' := by
  refine ⟨?_, ?_, ?_, ?_⟩ <;> (intro e; subst e; revert h; decide)

theorem ident_chars (n : Str) (h : isIdent n = true) : ∀ c ∈ n, isNameChar c = true := by
  obtain ⟨_, _, _, _, hall⟩ := ident_facts n h
  exact hall

theorem ndp_render (w : List Seg) (hok : wordOk w = true) (hns : w.any Seg.isSpecial = false) :
    ∀ rest, ndp (render w ++ rest) = ndp rest := by
  induction w with
  | nil => intro rest; rfl
  | cons s ss ih =>
    intro rest
    simp only [wordOk, Bool.and_eq_true] at hok
    simp only [List.any_cons, Bool.or_eq_false_iff] at hns
    rw [render_cons, List.append_assoc, ← ih hok.2 hns.2 rest]
    cases s with
    | lit t =>
      have hs := hok.1
      simp only [segOk, litOk, Bool.and_eq_true, List.all_eq_true, decide_eq_true_eq] at hs
      exact ndp_skip t _ (fun c hc => (hs.2 c hc).1.1)
    | var n =>
      have hs := hok.1
      simp only [segOk, Bool.and_eq_true] at hs
      have hc := ident_chars n hs.1
      cases n with
      | nil => simp [isIdent] at hs
      | cons c cs =>
        have h1 := nameChar_ne c (hc c (by simp))
        exact ndp_ref c cs _ h1.2.1 h1.1 (fun x hx => (nameChar_ne x (hc x (by simp [hx]))).1)
    | braced n =>
      have hs := hok.1
      simp only [segOk] at hs
      have hc := ident_chars n hs
      have := ndp_ref '{' (n ++ ['}']) (render ss ++ rest) (by decide) (by decide) (by
        intro x hx
        simp only [List.mem_append, List.mem_cons, List.mem_nil_iff, or_false] at hx
        rcases hx with hx | rfl
        · exact (nameChar_ne x (hc x hx)).1
        · decide)
      simpa [Seg.render, List.append_assoc] using this
    | status => simp [Seg.isSpecial] at hns
    | pid => simp [Seg.isSpecial] at hns

theorem ndp_tail (c : Char) (cs : Str) (h : ndp (c :: cs) = true) : ndp cs = true := by
  simp only [ndp, Bool.and_eq_true] at h; exact h.2

theorem ndp_dropWhile (p : Char → Bool) (t : Str) (h : ndp t = true) : ndp (t.dropWhile p) = true := by
  induction t with
  | nil => exact h
  | cons c cs ih =>
    simp only [List.dropWhile]
    split
    · exact ih (ndp_tail c cs h)
    · exact h

theorem ndp_whole (t : Str) (h : ndp t = true) : reWholeDollarParen t = false := by
  unfold reWholeDollarParen
  split
  · rename_i r; simp [ndp] at h
  · rfl

theorem ndp_assign (t : Str) (h : ndp t = true) : reAssignDollarParen t = false := by
  unfold reAssignDollarParen
  split
  · rename_i r hr
    cases t with
    | nil => simp [stripName] at hr
    | cons c cs =>
      simp only [stripName] at hr
      split at hr
      · simp only [Option.some.injEq] at hr
        have h2 := ndp_dropWhile isNameChar cs (ndp_tail c cs h)
        rw [hr] at h2
        have h3 := ndp_tail _ _ h2
        simp [ndp] at h3
      · cases hr
  · rfl

theorem ndp_of_noSub (t : Str) (h : containsSub t ['$', '('] = false) : ndp t = true := by
  induction t with
  | nil => rfl
  | cons c cs ih =>
    simp only [containsSub, Bool.or_eq_false_iff] at h
    have hc : ¬ (c = '$' ∧ cs.head? = some '(') := by
      intro ⟨e, hd⟩
      obtain ⟨ds, rfl⟩ : ∃ ds, cs = '(' :: ds := by
        cases cs with
        | nil => simp at hd
        | cons d ds => exact ⟨ds, by simp at hd; rw [hd]⟩
      simp [startsWith, e] at h
    simp only [ndp, ih h.2, Bool.and_true, Bool.not_eq_true', Bool.and_eq_false_iff, decide_eq_false_iff_not]
    exact Decidable.not_and_iff_not_or_not.mp hc

theorem ndp_reDollarParen (t : Str) (h : ndp t = true) : reDollarParen t = false := by
  induction t with
  | nil => rfl
  | cons c cs ih =>
    simp only [ndp, Bool.and_eq_true, Bool.not_eq_true', Bool.and_eq_false_iff, decide_eq_false_iff_not] at h
    unfold reDollarParen
    rw [ih h.2, Bool.or_false]
    split
    · rename_i r
      rcases h.1 with h1 | h1
      · simp [h1]
      · simp at h1
    · simp

theorem no_bq_assign (t : Str) (h : ∀ c ∈ t, c ≠ '`') : reAssignBackquote t = false := by
  unfold reAssignBackquote
  split
  · rename_i r hr
    cases t with
    | nil => simp [stripName] at hr
    | cons c cs =>
      simp only [stripName] at hr
      split at hr
      · simp only [Option.some.injEq] at hr
        have hm : '`' ∈ cs.dropWhile isNameChar := by rw [hr]; simp
        have := (List.dropWhile_sublist isNameChar).subset hm
        exact absurd rfl (h '`' (by simp [this]))
      · cases hr
  · rfl

theorem no_sq_quoted (t : Str) (h : ∀ c ∈ t, c ≠ '\'') : reQuotedAssignWithVar t = false := by
  induction t with
  | nil => rfl
  | cons c cs ih =>
    have ih' := ih (fun x hx => h x (by simp [hx]))
    unfold reQuotedAssignWithVar
    rw [ih', Bool.or_false]
    cases cs with
    | nil => simp
    | cons d ds =>
      have : d ≠ '\'' := h d (by simp)
      by_cases hc : c = '='
      · subst hc
        simp only [decide_true, Bool.true_and]
        split
        · rename_i r hr; simp at hr; exact absurd hr.1 this
        · rfl
      · simp [hc]

def Seg.isRef : Seg → Bool
  | .lit _ => false
  | _ => true

theorem hasRef_cons (s : Seg) (ss : List Seg) : hasRef (s :: ss) = (s.isRef || hasRef ss) := by
  cases s <;> rfl

theorem hasRef_split (w : List Seg) : hasRef w = (w.any Seg.isSpecial || w.any Seg.isNamed) := by
  induction w with
  | nil => rfl
  | cons s ss ih =>
    rw [hasRef_cons, ih]
    cases s <;> simp [Seg.isRef, Seg.isSpecial, Seg.isNamed, Bool.or_comm]

theorem render_no_dollar (w : List Seg) (hok : wordOk w = true) (h : hasRef w = false) : ∀ c ∈ render w, c ≠ '$' := by
  induction w with
  | nil => intro c hc; simp [render] at hc
  | cons s ss ih =>
    simp only [wordOk, Bool.and_eq_true] at hok
    have h' : s.isRef = false ∧ hasRef ss = false := by
      rw [hasRef_cons] at h; simpa using h
    rw [render_cons]
    intro c hc
    rcases List.mem_append.mp hc with hc | hc
    · cases s with
      | lit t =>
        have hs := hok.1
        simp only [segOk, litOk, Bool.and_eq_true, List.all_eq_true, decide_eq_true_eq] at hs
        exact (hs.2 c hc).1.1
      | var n => simp [Seg.isRef] at h'
      | braced n => simp [Seg.isRef] at h'
      | status => simp [Seg.isRef] at h'
      | pid => simp [Seg.isRef] at h'
    · exact ih hok.2 h'.2 c hc

def quoteFree (c : Char) : Bool := c ≠ '\'' && c ≠ '`'

theorem lits_quoteFree (w : List Seg) (hok : wordOk w = true) : w.all (Seg.litAll quoteFree) = true := by
  induction w with
  | nil => rfl
  | cons s ss ih =>
    simp only [wordOk, Bool.and_eq_true] at hok
    simp only [List.all_cons, Bool.and_eq_true]
    refine ⟨?_, ih hok.2⟩
    cases s with
    | lit t =>
      have hs := hok.1
      simp only [segOk, litOk, Bool.and_eq_true, List.all_eq_true, decide_eq_true_eq] at hs
      simp only [Seg.litAll, List.all_eq_true, quoteFree, Bool.and_eq_true, decide_eq_true_eq]
      exact fun c hc => ⟨(hs.2 c hc).1.2, (hs.2 c hc).2⟩
    | _ => rfl

/-- **the gate**: for a well-formed word, `env_in_token` is true exactly when the word holds a reference (so the
class `gate-rejects-reference` of Driver.lean is empty on well-formed words) -/
theorem gate_eq_hasRef (w : List Seg) (hok : wordOk w = true) : envInToken (render w) = hasRef w := by
  cases href : hasRef w with
  | false => exact envInToken_false _ (render_no_dollar w hok href)
  | true =>
    rw [hasRef_split] at href
    by_cases hsp : w.any Seg.isSpecial = true
    · simp [envInToken, special_gate w hsp]
    · have hsp' : w.any Seg.isSpecial = false := by simpa using hsp
      have hnm : w.any Seg.isNamed = true := by simpa [hsp'] using href
      have hq : (render w).all quoteFree = true :=
        render_all _ (fun c h => by simp [quoteFree, (nameChar_ne c h).2.2.1, (nameChar_ne c h).2.2.2])
          (by decide) (by decide) (by decide) (by decide) w hok (lits_quoteFree w hok)
      have hq' : ∀ c ∈ render w, c ≠ '\'' ∧ c ≠ '`' := by
        intro c hc
        simpa [quoteFree] using List.all_eq_true.mp hq c hc
      have hn : ndp (render w) = true := by
        have := ndp_render w hok hsp' []
        simpa [ndp] using this
      simp [envInToken, named_gate w hok hnm, ndp_whole _ hn, ndp_assign _ hn, no_bq_assign _ (fun c hc => (hq' c hc).2),
        no_sq_quoted _ (fun c hc => (hq' c hc).1)]

theorem specExpand_noRef (e : Env) (w : List Seg) (h : hasRef w = false) : specExpand e w = render w := by
  induction w with
  | nil => rfl
  | cons s ss ih =>
    rw [hasRef_cons, Bool.or_eq_false_iff] at h
    rw [specExpand_cons, render_cons, ih h.2]
    cases s with
    | lit t => rfl
    | _ => simp [Seg.isRef] at h

/-- **one token through `expand_env`**: `C10_token_dq` without its gate hypothesis (`gate_eq_hasRef`), and the
single-quoted and reference-free tokens, which the pass keeps -/
theorem expandEnv_token (e : Env) (q : Quote) (w : List Seg) (hok : wordOk w = true) :
    expandEnv e [(q.sep, render w)] = [specToken e q w] := by
  by_cases hq : q = .sq
  · subst hq; simp [expandEnv, Quote.sep, specToken]
  · cases href : hasRef w with
    | true => exact C10_token_dq e q w hq hok (by rw [gate_eq_hasRef w hok, href])
    | false =>
      have hgate : envInToken (render w) = false := by rw [gate_eq_hasRef w hok, href]
      have hs : ¬ (q.sep = ['`'] ∨ q.sep = ['\'']) := by
        cases q <;> simp [Quote.sep] at hq ⊢
      simp [expandEnv, hs, hgate, specToken, hq, specExpand_noRef e w href]

theorem expandEnv_map {α : Type} (e : Env) (f g : α → Tok) (xs : List α) (h : ∀ x ∈ xs, expandEnv e [f x] = [g x]) :
    expandEnv e (xs.map f) = xs.map g := by
  simp only [expandEnv, List.map_map]
  exact List.map_congr_left (fun x hx => (List.cons.inj (h x hx)).1)

theorem expandEnv_args (e : Env) (args : List (Quote × List Seg)) (ha : args.all argOk = true) :
    expandEnv e (args.map (fun a => (a.1.sep, render a.2))) = args.map (fun a => specToken e a.1 a.2) := by
  refine expandEnv_map e _ _ args (fun a hm => expandEnv_token e a.1 a.2 ?_)
  have := List.all_eq_true.mp ha a hm
  simp only [argOk, Bool.and_eq_true] at this
  exact this.1.1

/-- **C10 (line level).**  For a command line `prog W1 … Wn` whose words are renderings of segment words -
unquoted, double-quoted or single-quoted - the tokenizer followed by the parameter-expansion pass yields the
program word and, for every argument, exactly the reference token: every `$NAME`, `${NAME}`, `$?`, `$$` of an
unquoted or double-quoted word replaced by its current value (whatever the values are: they are not scanned again),
single-quoted words verbatim, the quote tags kept. -/
theorem C10_line (e : Env) (prog : Str) (args : List (Quote × List Seg)) (hg : lineGuard prog args = true) :
    expandEnv e (parseLine (renderLine prog args)) = ([], prog) :: args.map (fun a => specToken e a.1 a.2) := by
  rw [parseLine_renderLine prog args hg]
  simp only [lineGuard, Bool.and_eq_true] at hg
  obtain ⟨⟨hw, _⟩, ha⟩ := hg
  have hp : envInToken prog = false :=
    envInToken_false prog (word_no prog hw '$' (by decide))
  have : expandEnv e (([], prog) :: args.map (fun a => (a.1.sep, render a.2))) =
      ([], prog) :: expandEnv e (args.map (fun a => (a.1.sep, render a.2))) := by
    simp [expandEnv, hp]
  rw [this, expandEnv_args e args ha]

/-- a token no pass after `expand_env` touches (Boolean form of `C01.Quiet` without the `\`-tag): single-quoted; or
free of `$` and backquote and either double-quoted or untagged without `{`, `*` and a leading `~` -/
def inertTok (t : Tok) : Bool :=
  t.1 = ['\''] ||
  (t.2.all (fun c => c ≠ '$' && c ≠ '`') &&
    (t.1 = ['"'] || (t.1 = [] && t.2.all (fun c => c ≠ '{' && c ≠ '*') && t.2.head? ≠ some '~')))

theorem inertTok_facts (t : Tok) (h : inertTok t = true) :
    NoSubst t ∧ (t.1 ≠ [] ∨ ((∀ c ∈ t.2, c ≠ '{') ∧ ¬ ('*' ∈ t.2))) := by
  simp only [inertTok, Bool.or_eq_true, Bool.and_eq_true, decide_eq_true_eq, List.all_eq_true] at h
  rcases h with h | ⟨h1, h2⟩
  · exact ⟨Or.inl h, Or.inl (by simp [h])⟩
  · have hns : matchBackquote t.2 = none ∧ shouldDoDollar t.2 = false :=
      ⟨matchBackquote_none t.2 (fun c hc => (h1 c hc).2), shouldDoDollar_false t.2 (fun c hc => (h1 c hc).1)⟩
    rcases h2 with h2 | ⟨⟨h2, h3⟩, _⟩
    · exact ⟨Or.inr ⟨Or.inl h2, hns⟩, Or.inl (by simp [h2])⟩
    · exact ⟨Or.inr ⟨Or.inr h2, hns⟩, Or.inr ⟨fun c hc => (h3 c hc).1, fun hm => (h3 '*' hm).2 rfl⟩⟩

/-- **C10 (line level, all passes).**  If moreover the program word is no alias and not `export`/`xargs`, no
unquoted word starts with `~`, and the EXPANDED tokens are inert for the later passes (`inertTok`: a condition on
the words and the values of the variables they mention), then the whole of `do_expansion` on the tokenized line
yields exactly the program word and the reference tokens.  (Fuel: one unit per argument for the walk of a substitution
pass, and the two of `doExpansion_prog`.  The `~` pass runs before `expand_env`: hence `hhome` on the words as written,
while `inertTok` speaks of the expanded tokens.) -/
theorem C10_line_expansion (se : SubstEnv) (prog : Str) (args : List (Quote × List Seg)) (f : Nat)
    (hg : lineGuard prog args = true)
    (hexp : prog ≠ "export".toList) (hx : prog ≠ "xargs".toList) (ha : lookup se.env.aliases prog = none)
    (hhome : ∀ a ∈ args, a.1 = .none → (render a.2).head? ≠ some '~')
    (hin : ∀ a ∈ args, inertTok (specToken se.env a.1 a.2) = true)
    (hf : args.length + 2 < f) :
    doExpansion se f (parseLine (renderLine prog args)) =
      .ok (([], prog) :: args.map (fun a => specToken se.env a.1 a.2)) := by
  rw [parseLine_renderLine prog args hg]
  simp only [lineGuard, Bool.and_eq_true] at hg
  obtain ⟨⟨hw, hl⟩, hargs⟩ := hg
  have hfacts : ∀ t ∈ args.map (fun a => specToken se.env a.1 a.2),
      NoSubst t ∧ (t.1 ≠ [] ∨ ((∀ c ∈ t.2, c ≠ '{') ∧ ¬ ('*' ∈ t.2))) := by
    intro t ht
    obtain ⟨a, hma, rfl⟩ := List.mem_map.mp ht
    exact inertTok_facts _ (hin a hma)
  refine doExpansion_prog_noSubst se prog _ _ _ f hw hl ha hx (fun _ _ h => absurd h hexp)
    (expandAliasGo_false_of _ _ ?_) ?_ (expandEnv_args se.env args hargs)
    (fun t ht => (hfacts t ht).2.imp id (fun h => needExpandBrace_false _ h.1))
    (expandGlobGo_gate se.env _ (fun t ht => (hfacts t ht).2.imp id (fun h => h.2)))
    (fun t ht => (hfacts t ht).1) (fun t ht => (hfacts t ht).2.imp id (fun h => findRange_none _ h.1))
    (by simp only [List.length_map]; omega)
  · -- no argument token is an untagged `|`
    intro t ht ⟨h1, h2⟩
    obtain ⟨⟨q, w⟩, hma, rfl⟩ := List.mem_map.mp ht
    have hok := List.all_eq_true.mp hargs _ hma
    simp only [argOk, Bool.and_eq_true] at hok
    have hch := render_charOk q w hok.1.1 hok.1.2
    cases q with
    | none => simp only at h2; rw [h2] at hch; revert hch; decide
    | dq => simp [Quote.sep] at h1
    | sq => simp [Quote.sep] at h1
  · -- no untagged token starts with `~`
    intro t ht
    obtain ⟨⟨q, w⟩, hma, rfl⟩ := List.mem_map.mp ht
    cases q with
    | none => exact Or.inr (hhome _ hma rfl)
    | dq => exact Or.inl (by simp [Quote.sep])
    | sq => exact Or.inl (by simp [Quote.sep])

def exArgs : List (Quote × List Seg) :=
  [(.none, [.lit "a=".toList, .var "V1".toList, .lit "/x*{1,2}>~".toList]),
   (.dq, [.lit "it is ".toList, .braced "SELF".toList, .lit " (ok) | # ; & ".toList, .status, .pid]),
   (.sq, [.var "V1".toList, .lit " ".toList]),
   (.dq, []),
   (.none, [.pid])]

example : lineGuard "echo".toList exArgs = true := by decide +kernel

/-- the instance of `C10_line`, computed: `V1`'s value `$V2` and the self-referential value are inserted once -/
example : expandEnv wEnv (parseLine (renderLine "echo".toList exArgs)) =
    [([], "echo".toList), ([], "a=$V2/x*{1,2}>~".toList), (['"'], "it is x$SELF (ok) | # ; & 01".toList),
     (['\''], "$V1 ".toList), (['"'], []), ([], "1".toList)] := by
  lit_lists
  decide +kernel

/-- outside the guard: a backslash inside double quotes (it escapes the closing quote) … -/
example : lineGuard "echo".toList [(.dq, [.lit "a\\".toList])] = false ∧
    parseLine (renderLine "echo".toList [(.dq, [.lit "a\\".toList])]) ≠ [([], "echo".toList), (['"'], "a\\".toList)] := by
  decide +kernel
/-- … and a blank in an unquoted literal (two words) -/
example : lineGuard "echo".toList [(.none, [.lit "a b".toList])] = false ∧
    (parseLine (renderLine "echo".toList [(.none, [.lit "a b".toList])])).length = 3 := by decide +kernel

def exArgs2 : List (Quote × List Seg) :=
  [(.none, [.lit "a=".toList, .var "V2".toList, .lit ".txt".toList]),
   (.dq, [.lit "x ".toList, .braced "V2".toList, .lit " | ".toList, .status]),
   (.sq, [.var "V1".toList])]
def exSe : SubstEnv := { env := wEnv, cmdOut := fun _ => "OUT".toList }

example : lineGuard "echo".toList exArgs2 = true ∧ lookup exSe.env.aliases "echo".toList = none ∧
    (∀ a ∈ exArgs2, a.1 = .none → (render a.2).head? ≠ some '~') ∧
    (∀ a ∈ exArgs2, inertTok (specToken exSe.env a.1 a.2) = true) := by decide +kernel

example : doExpansion exSe 8 (parseLine (renderLine "echo".toList exArgs2)) =
    .ok [([], "echo".toList), ([], "a=hello.txt".toList), (['"'], "x hello | 0".toList), (['\''], "$V1".toList)] := by
  lit_lists
  decide +kernel

def bqSe : SubstEnv := { env := { vars := [("V".toList, "`x`".toList)] }, cmdOut := fun _ => "OUT".toList }
/-- a double-quoted word whose VALUE holds a backquoted command is outside `inertTok`: the substitution pass runs it -/
example : inertTok (specToken bqSe.env .dq [.var "V".toList]) = false ∧
    doExpansion bqSe 20 (parseLine (renderLine "echo".toList [(.dq, [.var "V".toList])])) =
      .ok [([], "echo".toList), (['"'], "OUT".toList)] := by decide +kernel

end Cicada.C10
