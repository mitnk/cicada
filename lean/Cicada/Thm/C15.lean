import Cicada.Lemmas.Lit
import Cicada.Lemmas.C15Word
import Cicada.Lemmas.C15Sess
/-!
# C15 — script arguments, functions, `source` and exit statuses

Positional parameters: `C15_pos_ref` with `C15_index`, `C15_missing_is_empty`, `C15_all` (what the value of a reference is);
the braced spelling and whole words are in `Thm/C15word.lean`.  Functions, `source`, `exit`, `set -e` and statuses
(`Model/ScriptSess.lean`): single steps of `runStmts` and concrete sessions here, the general statements (any list, any
nesting depth) in `Thm/C15sess.lean`.  The model is exercised by the `ssess` stream against the real binary.
-/
namespace Cicada.C15
open Cicada

/-- **`$N` between literal text**: the reference is replaced by the N-th argument, the text on both sides is kept -/
theorem C15_pos_ref (args : List Str) (pre d post : Str) (hpre : ∀ c ∈ pre, c ≠ '$') (hn1 : noNl pre = true)
    (hd : digitsOk d = true) (hpost : ∀ c ∈ post, c ≠ '$') (hn2 : noNl post = true)
    (hnext : ∀ c, post.head? = some c → isDigitA c = false ∧ c ≠ '}') :
    expandArgsTok args (pre ++ '$' :: (d ++ post)) = pre ++ argValue args d ++ post := by
  have hnd : noNl ('$' :: (d ++ post)) = true := by rw [noNl_cons, noNl_append_iff, noNl_digits d hd, hn2]; rfl
  have hn : noNl (pre ++ '$' :: (d ++ post)) = true := by rw [noNl_append_iff, hn1, hnd]; rfl
  rw [expandArgsTok_lits args pre _ hpre hn, expandArgsTok_ref args _ d post hnd (argRefAt_pos d post hd hnext),
    expandArgsTok_noref args post (findArgRef_none post [] hpost), List.append_assoc]

/-- an index past the end expands to nothing -/
theorem C15_missing_is_empty (args : List Str) (d : Str) (n : Nat) (hd : parseUsize d = some n) (hn : args.length ≤ n) (h : d ≠ ['@']) :
    argValue args d = [] := by
  simp [argValue, h, hd, List.getD_eq_getElem?_getD, List.getElem?_eq_none hn]

/-- an index inside the list expands to that argument -/
theorem C15_index (args : List Str) (d : Str) (n : Nat) (hd : parseUsize d = some n) (hn : n < args.length) (h : d ≠ ['@']) :
    argValue args d = args[n] := by
  simp [argValue, h, hd, List.getD_eq_getElem?_getD, List.getElem?_eq_getElem hn]

/-- `$@` is the arguments from the first on, joined by blanks -/
theorem C15_all (args : List Str) : argValue args ['@'] = joinWith [' '] (args.drop 1) := by simp [argValue]

/-- a single-quoted token is not expanded, wherever it stands in the list (back quotes: `C15_token_hard_quoted`) -/
theorem C15_sq_untouched (args : List Str) (text : Str) (pre post : List Tok) :
    expandArgsInTokens args (pre ++ [(['\''], text)] ++ post) =
      expandArgsInTokens args pre ++ [(['\''], text)] ++ expandArgsInTokens args post := by
  simp [expandArgsInTokens]

example : expandArgsTok ["s.sh".toList, "a b".toList, "c".toList] "x$1-${2}$3/$@.".toList = "xa b-c/a b c.".toList := by
  lit_lists
  decide +kernel
example : parseUsize "12".toList = some 12 := by decide +kernel

end Cicada.C15

/-! ### functions, `source`, `exit`, `set -e` (model: `Model/ScriptSess.lean`) -/
namespace Cicada.C15
open Cicada.ScriptSess Cicada.C15.Sess

/-- **after `set -e` the first failing command ends the run with its status**: whatever follows is not executed -/
theorem C15_sete_first_failure (cfg : Cfg) (files : List (Str × List SStmt)) (f : Nat) (k c : Nat) (rest : List SStmt) (st : St) (last : Nat)
    (hs : st.sete = true) (he : st.exited = none) (hc : c ≠ 0) :
    runStmts cfg files (f + 1) (.stage k c :: rest) st last = ({ st with trace := st.trace ++ [(k, c)] }, c) := by
  rw [runStmts_cons]
  simp [step, stopped, he, hs, hc]

/-- a succeeding command lets the run go on (`Sess.runStmts_stage_ok`) -/
theorem C15_success_continues (cfg : Cfg) (files : List (Str × List SStmt)) (f : Nat) (k : Nat) (rest : List SStmt) (st : St) (last : Nat)
    (he : st.exited = none) :
    runStmts cfg files (f + 1) (.stage k 0 :: rest) st last = runStmts cfg files f rest { st with trace := st.trace ++ [(k, 0)] } 0 :=
  runStmts_stage_ok cfg files f k rest st last he

/-- **`exit N` ends the run of its list immediately** (the enclosing levels: `C15_exit_in_function_or_source`,
`C15_exit_nested`) -/
theorem C15_exit_immediate (cfg : Cfg) (files : List (Str × List SStmt)) (f : Nat) (n : Nat) (rest : List SStmt) (st : St) (last : Nat)
    (he : st.exited = none) :
    runStmts cfg files (f + 1) (.exit n :: rest) st last = ({ st with exited := some n }, n) := by
  rw [runStmts_cons]
  simp [step, stopped, he]

/-- once the shell has exited no statement is run any more (`Sess.runStmts_exited`) -/
theorem C15_exited_runs_nothing (cfg : Cfg) (files : List (Str × List SStmt)) (f : Nat) (stmts : List SStmt) (st : St) (last : Nat) (n : Nat)
    (he : st.exited = some n) : runStmts cfg files f stmts st last = (st, last) :=
  runStmts_exited cfg files f stmts st last (by rw [he]; rfl)

/-- a one-command run; for a list of any length: `C15_status_last_executed`, `C15_status_last_stmt` -/
theorem C15_status_is_last (cfg : Cfg) (files : List (Str × List SStmt)) (f : Nat) (k c : Nat) (st : St) (last : Nat)
    (hs : st.sete = false) (he : st.exited = none) :
    (runStmts cfg files (f + 2) [.stage k c] st last).2 = c := by
  rw [runStmts_single _ _ _ _ _ _ he]; rfl

/-- a session in which the call stands BEFORE the definition in the file: definitions are registered when the file is
loaded (in general: `Sess.bodyOf_hoist`) -/
theorem C15_functions_hoisted (cfg : Cfg) (k c : Nat) :
    (runMain cfg [("s".toList, [.call "f".toList, .defn "f".toList [.stage k c]])] "s".toList).2 = [(k, c)] := by
  simp [runMain, runFile, runStmts, setFunc, isDefn, List.find?]

/-- `set -e` issued before a `source` is still in effect after it:
`set -e; source a; stage 2 (fails); stage 3` stops at 2 -/
theorem C15_sete_survives_source :
    runMain {} [("s".toList, [.sete, .source "a".toList, .stage 2 3, .stage 3 0]), ("a".toList, [.stage 1 0])] "s".toList
      = (3, [(1, 0), (2, 3)]) := by decide +kernel

/-- KF-C15-sete-inside-sourced-file: a `set -e` issued INSIDE a sourced file is switched off again when that file ends
(model = implementation), the reference semantics keeps it -/
theorem C15_finding_sete_inside_sourced_file :
    runMain {} [("s".toList, [.source "a".toList, .stage 2 3, .stage 3 0]), ("a".toList, [.sete, .stage 1 0])] "s".toList
      = (0, [(1, 0), (2, 3), (3, 0)]) ∧
    runMain { clearAfterSource := false } [("s".toList, [.source "a".toList, .stage 2 3, .stage 3 0]), ("a".toList, [.sete, .stage 1 0])] "s".toList
      = (3, [(1, 0), (2, 3)]) := by decide +kernel

end Cicada.C15
