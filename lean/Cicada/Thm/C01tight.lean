import Cicada.Thm.C01esc
/-!
# C01 — the TIGHT spelling of the list / pipe operators

`renderLineT p args ctx` writes the operator of the context directly after the last argument, without blanks:
`prog 'a'|q`, `prog "b";q`, `prog \;x&&q`, `prog 'x'||q`.

`C01_tight_partial` : under `guardT` = `guardEsc` (the guard of `C01_esc_partial`: the complement of the finding classes of
`classify`, `guardEsc_iff`) and, in the `|q` context only, `stickyEnd args = false` (the driver's `sticky` fold), the first
pipeline of the tight line is planned with exactly the expected argv — the same observable as for the spaced line.
The guard asks nothing more: `;q`, `&&q`, `||q` are split off by `line_to_cmds` whatever the last argument is (a last
argument ending in an escaped `&`, `|`, `;`, `\` included: witnesses below), and they leave the same first pipeline as the
spaced spelling.

`C01_finding_pipe_first_tight` : the whole class outside (`guardEsc`, `|q`, `stickyEnd args = true`) violates the statement:
the tokenizer is in its sticky `\` mode (entered by a word that starts with an escaped `|`, kept while the following words
start with an escaped character), where a `|` does not end the word; `|q` is appended to the last argument and the decoy
stage disappears (KF-C01-esc-pipe-first-tight).
-/
namespace Cicada.C01
open Cicada Cicada.TokLemmas Cicada.PassLemmas Cicada.C03

/-- `Ctx.tight` as one table; `tightSuffix` in Driver.lean is a copy of it (kept equal by hand, no statement links them) -/
theorem tight_eq (ctx : Ctx) : ctx.tight = (match ctx with
    | .alone => [] | .pipe => "|q".toList | .semi => ";q".toList | .and => "&&q".toList | .or => "||q".toList) := by
  cases ctx <;> rfl

/-- `stickyEnd` as one fold; the `sticky` fold in Driver.lean is a copy of the right-hand side (kept equal by hand) -/
theorem stickyEnd_eq_driver (args : List (Style × Str)) :
    stickyEnd args = args.foldl (fun (st : Bool) (x : C01.Style × Str) => match x with
      | (.esc, c :: _) => if c = '|' then true else if C01.isSpecial c then st else false
      | _ => false) false := rfl

/-- the statement for the tight spelling: same expected observable as for the spaced line -/
def HoldsT (se : SubstEnv) (f : Nat) (p : Str) (args : List (Style × Str)) (ctx : Ctx) : Prop :=
  ∃ plan, firstPlan se f (renderLineT p args ctx) = .ok (.ok plan) ∧ obsOfPlan plan = expectedObs p args ctx

/-- input guard: `guardEsc`, and in the `|q` context the scanner is not in the sticky mode after the last argument -/
def guardT (e : Env) (p : Str) (args : List (Style × Str)) (ctx : Ctx) : Bool :=
  guardEsc e p args ctx && (ctx ≠ .pipe || !stickyEnd args)

/-- the stronger statement (without the sticky exclusion): false, see `C01_tight_strong_false` -/
def C01_tight_strong : Prop :=
  ∀ (se : SubstEnv) (p : Str) (args : List (Style × Str)) (ctx : Ctx),
    guardEsc se.env p args ctx = true → ∀ f, args.length + 5 < f → HoldsT se f p args ctx

theorem guardT_iff {e : Env} {p : Str} {args : List (Style × Str)} {ctx : Ctx} :
    guardT e p args ctx = true ↔ guardEsc e p args ctx = true ∧ ¬ (ctx = .pipe ∧ stickyEnd args = true) := by
  simp only [guardT, Bool.and_eq_true, Bool.or_eq_true, decide_eq_true_eq, Bool.not_eq_true', not_and,
    Bool.not_eq_true, Decidable.imp_iff_not_or]

/-- **C01, the tight spelling: all three styles, all five contexts**, under `guardT` -/
theorem C01_tight_partial (se : SubstEnv) (p : Str) (args : List (Style × Str)) (ctx : Ctx) (f : Nat)
    (hg : guardT se.env p args ctx = true) (hf : args.length + 5 < f) :
    HoldsT se f p args ctx := by
  obtain ⟨hge, hst⟩ := guardT_iff.1 hg
  have g := guardEsc_facts hge
  obtain ⟨hw, hl⟩ := plainWord_facts p g.plain
  have hne : p ≠ [] := by intro e; subst e; simp at hl
  obtain ⟨rest, hitems⟩ := lineToCmds_firstTight p args ctx hw hne g.wordOk g.lastWs
  obtain ⟨toks, htexts, hplan⟩ := plan_of_parse se f _ p args ctx hge hf
    (parseLine_cmdTight p args ctx hw hl g.wordOk g.mid g.lastPipe fun hc => by simpa using fun hs => hst ⟨hc, hs⟩)
  exact holds_of_plan hitems htexts hplan

/-- the same with the guard spelled as the driver computes the class of a tight line: `classify` says no finding class,
`q` is no alias in the pipe context, and not (`sticky` and pipe context) -/
theorem C01_tight_nonfinding (se : SubstEnv) (p : Str) (args : List (Style × Str)) (ctx : Ctx)
    (hcl : classify se.env p args ctx = "-" ∨ classify se.env p args ctx = "esc-other")
    (hq : ctx = .pipe → (lookup se.env.aliases ['q']).isNone = true)
    (hs : ¬ (stickyEnd args = true ∧ ctx = .pipe)) :
    HoldsT se (planFuel (renderLineT p args ctx)) p args ctx :=
  C01_tight_partial se p args ctx _ (guardT_iff.2 ⟨classify_guardEsc hcl hq, fun h => hs ⟨h.2, h.1⟩⟩) (planFuel_enough_sfx p args _)

/-- what the code does on the whole class: one stage only, `|q` glued to the last argument -/
theorem C01_pipe_first_tight_plan (se : SubstEnv) (p : Str) (args : List (Style × Str)) (f : Nat)
    (hg : guardEsc se.env p args .pipe = true) (hs : stickyEnd args = true) (hf : args.length + 5 < f) :
    ∃ as a, args = as ++ [(.esc, a)] ∧
      ∃ plan, firstPlan se f (renderLineT p args .pipe) = .ok (.ok plan) ∧
        obsOfPlan plan = { stages := [(p :: as.map (·.2) ++ [a ++ "|q".toList], [], none)], envs := [], background := false } := by
  have g := guardEsc_facts hg
  obtain ⟨hw, hl⟩ := plainWord_facts p g.plain
  have hne : p ≠ [] := by intro e; subst e; simp at hl
  obtain ⟨rest, hitems⟩ := lineToCmds_firstTight p args .pipe hw hne g.wordOk (fun h => absurd rfl h)
  obtain ⟨toks0, t, hrel, hparse⟩ := parseLine_cmdStuck p args hw hl g.wordOk g.mid (g.lastPipe rfl) hs
  have hall := argsRel_quiet hrel g.ok g.chars
  -- the last argument is the escaped one whose text is `t`
  obtain ⟨as, ⟨sty, a⟩, rfl, hrel0, ha, hsty⟩ := argsRel_snoc hrel
  simp only at ha hsty
  subst ha
  -- the tag `\` is given to escaped words only
  obtain rfl : sty = .esc := by
    cases sty with
    | sq => simp at hsty
    | dq => simp at hsty
    | esc => rfl
  clear hsty
  have htexts0 : toks0.map (·.2) = as.map (·.2) := argsRel_texts hrel0
  have hlen : toks0.length = as.length := by simpa using congrArg List.length htexts0
  let toks' : List Tok := toks0 ++ [(['\\'], t ++ ['|', 'q'])]
  have hall' : ∀ u ∈ toks', Quiet u ∧ ArgTok' u := by
    intro u hu
    simp only [toks', List.mem_append, List.mem_singleton] at hu
    rcases hu with hu | rfl
    · exact hall u (by simp [hu])
    · have hq0 := (hall (['\\'], t) (by simp)).1
      refine ⟨Or.inr ⟨?_, Or.inr (Or.inl rfl)⟩, Or.inl (by simp)⟩
      intro c hc
      simp only [List.mem_append, List.mem_cons, List.not_mem_nil, or_false] at hc
      rcases hq0 with h0 | ⟨h0, _⟩
      · simp at h0
      · rcases hc with hc | rfl | rfl
        · exact h0 c hc
        · exact ⟨by decide, by decide⟩
        · exact ⟨by decide, by decide⟩
  refine ⟨as, t, rfl, ?_⟩
  have hplan : planOf se f (renderCmd p (as ++ [(.esc, t)]) ++ pipeSfxT .pipe) =
      .ok (.ok { commands := [stage (([], p) :: toks')], envs := [], background := false }) :=
    planOf_tokens se f _ p toks' .alone (by rw [pipeToks, if_neg nofun, List.append_nil]; exact hparse) hw hl g.alias g.xargs nofun hall' (by simp [toks'])
      (by simp only [toks', List.length_append, List.length_cons, List.length_nil, if_neg (nofun : ¬ Ctx.alone = Ctx.pipe)] at hf ⊢
          omega)
  refine ⟨_, by simp only [firstPlan, hitems]; exact hplan, ?_⟩
  simp [obsOfPlan, stage, toks', htexts0]

/-- **the finding, for all inputs of its class** (KF-C01-esc-pipe-first-tight): inside `guardEsc`, a last argument left in
the sticky mode and a tight `|q` — the statement fails -/
theorem C01_finding_pipe_first_tight (se : SubstEnv) (p : Str) (args : List (Style × Str)) (f : Nat)
    (hg : guardEsc se.env p args .pipe = true) (hs : stickyEnd args = true) (hf : args.length + 5 < f) :
    ¬ HoldsT se f p args .pipe := by
  obtain ⟨as, a, _, plan, h1, h2⟩ := C01_pipe_first_tight_plan se p args f hg hs hf
  refine firstPlan_refutes plan h1 fun h => ?_
  have := congrArg (fun o => o.stages.length) (h2.symm.trans h)
  simp [expectedObs] at this

theorem C01_finding_pipe_first_tight_witness :
    ¬ HoldsT wEnv 8 "prog".toList [(.esc, "|x".toList)] .pipe :=
  C01_finding_pipe_first_tight wEnv _ _ 8 (by decide +kernel) (by decide +kernel) (by decide)

theorem C01_tight_strong_false : ¬ C01_tight_strong := by
  intro h
  exact C01_finding_pipe_first_tight_witness (h wEnv "prog".toList [(.esc, "|x".toList)] .pipe (by decide +kernel) 8 (by decide))

/-- on `guardEsc` inputs, `guardT` is exactly the complement of the finding class: the partial theorem and the finding
together decide the statement on all of `guardEsc` -/
theorem C01_tight_iff (se : SubstEnv) (p : Str) (args : List (Style × Str)) (ctx : Ctx) (f : Nat)
    (hg : guardEsc se.env p args ctx = true) (hf : args.length + 5 < f) :
    HoldsT se f p args ctx ↔ ¬ (ctx = .pipe ∧ stickyEnd args = true) := by
  constructor
  · intro h ⟨hc, hs⟩
    subst hc
    exact C01_finding_pipe_first_tight se p args f hg hs hf h
  · exact fun h => C01_tight_partial se p args ctx f (guardT_iff.2 ⟨hg, h⟩) hf

/-! ## non-vacuity; a last argument ending in an escaped `&`, `|`, `;`, `\` is inside the guard -/

/-- all three styles; the sticky mode entered by `\|pipe` and left again by the quoted word; last argument escaped -/
example : guardT wEnv.env "prog".toList
    [(.esc, "a b\tc".toList), (.esc, "|pipe;first".toList), (.esc, ";still".toList), (.sq, "x|y; $Z *".toList),
     (.dq, "<<< 'q' #".toList), (.esc, "2>file<in".toList), (.esc, "x|".toList)] .pipe = true := by
  lit_lists
  decide +kernel

example : guardT wEnv.env "prog".toList [(.esc, "|x".toList), (.esc, "y&".toList)] .and = true := by decide +kernel
/-- in the sticky mode, but the context is not the pipe: inside the guard -/
example : guardT wEnv.env "prog".toList [(.esc, "|x".toList), (.esc, ";y".toList)] .or = true ∧
    stickyEnd [(Style.esc, "|x".toList), (.esc, ";y".toList)] = true := by decide +kernel
example : guardT wEnv.env "prog".toList [] .pipe = true := by decide +kernel

/-- `prog x\&&&q` : a last argument ending in an escaped `&` before a tight `&&` is fine -/
example : HoldsT wEnv 8 "prog".toList [(.esc, "x&".toList)] .and :=
  C01_tight_partial _ _ _ _ _ (by decide +kernel) (by decide)
/-- `prog x\|||q`, `prog x\||q`, `prog x\\;q` likewise -/
example : HoldsT wEnv 8 "prog".toList [(.esc, "x|".toList)] .or :=
  C01_tight_partial _ _ _ _ _ (by decide +kernel) (by decide)
example : HoldsT wEnv 8 "prog".toList [(.esc, "x|".toList)] .pipe :=
  C01_tight_partial _ _ _ _ _ (by decide +kernel) (by decide)
example : HoldsT wEnv 8 "prog".toList [(.esc, "x\\".toList)] .semi :=
  C01_tight_partial _ _ _ _ _ (by decide +kernel) (by decide)

/-- outside `guardEsc` already (class esc-ltgt-alone, `prog \>|q`): the tight spelling is violated too -/
theorem C01_tight_ltgt_alone : ¬ HoldsT wEnv 8 "prog".toList [(.esc, ">".toList)] .pipe :=
  firstPlan_refutes
    { commands := [{ tokens := [([], "prog".toList)], redirectsTo := [], redirectFrom := none },
                   { tokens := [(['\''], ">q".toList)], redirectsTo := [], redirectFrom := none }],
      envs := [], background := false }
    (by decide +kernel) (by simp [obsOfPlan, expectedObs, expectedArgv])

/-- outside `guardEsc` already (class esc-trailing-blank, `prog x\ ;q`): the escaped blank is trimmed off -/
theorem C01_tight_trailing_blank : ¬ HoldsT wEnv 8 "prog".toList [(.esc, "x ".toList)] .semi :=
  firstPlan_refutes
    { commands := [{ tokens := [([], "prog".toList), ([], "x".toList)], redirectsTo := [], redirectFrom := none }],
      envs := [], background := false }
    (by decide +kernel) (by simp [obsOfPlan, expectedObs, expectedArgv])

end Cicada.C01
