import Cicada.Thm.C14peg
import Cicada.Lemmas.LocustLayout
import Cicada.Lemmas.InterpBlank
import Cicada.Lemmas.LocustFuel
import Cicada.Lemmas.Lit
/-!
# C14, the parser half — the PEG round trip in other layouts

`Thm/C14peg.lean` (`C14_parse_render`) states the round trip for the canonical text: no indentation, no blank lines, every
line ended by `\n`.  Here it is stated for `renderL lay fin b` (`Lemmas/LocustLayout.lean`), where the `Layout` gives
  * `ind d`: blanks / tabs in front of every line of nesting depth `d` (also in front of `else if`, `else`, `fi`, `done`;
    the top level may be indented too, `ind 0 ≠ []` — the first line of a file is special, see the finding below);
  * `gapH` blank lines after every head line (`if c`, `else if c`, `else`, `for v in w`, `while c`: a body may start with blank
    lines), `gapS` blank lines after the last line of every statement (command line, `fi`, `done`: blank lines between
    statements, at the end of bodies, at the end of the file); a blank line is `bl` (blanks / tabs) and `\n`;
  * `semi`: the spelling of the heads (`if c; then` …), as before;
  * `fin = true`: the last line of the file (a command line, `fi` or `done`) has no `\n` (then no blank lines follow it).
The guard on the AST is the one of `C14_parse_render` (`okAst`).

What the grammar model does: indentation is eaten by pest's implicit `WHITESPACE*`
everywhere, also in front of the block keywords; a blank line is a `CMD` pair whose text is `\n` (the interpreter skips
pairs with blank text), so with blank lines the tree is NOT in `RBlock`; it is in `RBlockB` (`Lemmas/RepBlank.lean`: `RBlock`
with blank pairs interleaved), for which the interpreter refinement holds as well (`C14_interpreter_refines_blank`,
`Lemmas/InterpBlank.lean`).  A comment line `# …` between statements is a `CMD` pair like any command line (the grammar
knows no comments), also inside bodies; it is NOT covered here: `okAst` asks for `expandArgs args l = l` (as
`C14_interpreter_refines` does), and `expand_args` re-tokenizes the line, which drops the comment — the interpreter hands
the empty line to `run_command_line`.  Covering comments needs a clause "a line whose expansion is empty is skipped" in
`RStmt` / `semBlock`, not a change of the parser half.

* `C14_parse_layout`: for every `lay.OK`, `fin`, `b` in `okAst`: `parseLines (renderL lay fin b)` succeeds and the pairs are
  in `RBlockB lay.HasBlank args b`.
* `C14_parse_indent`: without blank lines (`gapH = gapS = 0`; any indentation, with or without the last newline) the pairs
  are in `RBlock args b`; `C14_parse_blank`: blank lines only.
* `C14_layout_end_to_end`: `run_lines` on `renderL lay fin b` is no syntax error and yields `semBlock b`.
* `Layout.uniform`: `ind d` = `d` copies of a unit; decidable guard `layoutOkB`.  `renderL_plain`: the layout without
  indentation and blank lines is `render` (so `C14_parse_render` is an instance of `C14_parse_indent`).
* `C05_parse_total` (C05, "script text … terminates"): `parseLines` is total by construction; for EVERY text the result with
  the driver's fuel `parseFuel t` is the result with any larger fuel (`Lemmas/LocustFuel.lean`), likewise the inner loops
  of `CMD` / `TEST` (`C05_parse_inner_total`).

Findings (not accepted / accepted differently; `example`s at the end):
  * the FIRST line of a file is parsed without skipping blanks in front of `!KW_LIST`: an indented stray `fi` / `done` /
    `else` on line 1 is a command (`CMD`), not a syntax error (`C14_stray_fi` needs the keyword in column 0);
  * a comment after a block keyword is not layout: `fi # x` / `done # x` make the script a syntax error, `else # x` is
    run as a command inside the arm above (the `if` has no else-branch then); `else  if c` (two blanks) is a command too;
  * `if<TAB>c` is a command line (`KW_IF = "if "`).
Outside: trailing blanks at the end of lines (accepted by the grammar: `example` only), `\r\n`, different indentation for
lines of the same depth, blank lines in front of the first statement.
-/
namespace Cicada.C14
open Cicada Cicada.Locust

/-- `d` copies of the indentation unit -/
def indentOf (unit : Str) (d : Nat) : Str := (List.replicate d unit).flatten

/-- a fixed indentation unit repeated `depth` times, `gapH` / `gapS` blank lines -/
def Layout.uniform (semi : Bool) (unit bl : Str) (gapH gapS : Nat) : Layout :=
  { semi := semi, ind := indentOf unit, bl := bl, gapH := gapH, gapS := gapS }

/-- the indentation unit and the blank lines consist of blanks and tabs -/
def layoutOkB (unit bl : Str) : Bool := unit.all isWsP && bl.all isWsP

theorem indentOf_ws (unit : Str) (h : ∀ c, c ∈ unit → isWsP c = true) : ∀ d c, c ∈ indentOf unit d → isWsP c = true := by
  intro d
  induction d with
  | zero => intro c hc; simp [indentOf] at hc
  | succ d ih =>
    intro c hc
    simp only [indentOf, List.replicate_succ, List.flatten_cons, List.mem_append] at hc
    rcases hc with hc | hc
    · exact h c hc
    · exact ih c hc

theorem uniform_ok (semi : Bool) (unit bl : Str) (gapH gapS : Nat) (h : layoutOkB unit bl = true) :
    (Layout.uniform semi unit bl gapH gapS).OK := by
  simp only [layoutOkB, Bool.and_eq_true, List.all_eq_true] at h
  exact ⟨indentOf_ws unit h.1, h.2⟩

/-- the parser fuel a block needs in a layout is at most twice the length of its text, plus 2 -/
theorem C14_fuel_boundL (lay : Layout) (fin : Bool) (b : Block) : cBL lay fin b ≤ 2 * (renderL lay fin b).length + 2 := by
  have := lB_len (lay := lay) 0 b fin [] (fun _ => rfl)
  simp only [List.length_nil] at this
  simp only [renderL]
  split at this <;> omega

/-- the top rule on the text in layout `lay`, with any fuel from `cBL lay fin b` on: all of the text is consumed and the
pairs represent `b`, blank pairs interleaved -/
theorem C14_parse_layout_fuel (lay : Layout) (hl : lay.OK) (fin : Bool) (args : List Str) (b : Block)
    (hok : okAst args b = true) (f : Nat) (hf : cBL lay fin b ≤ f) :
    ∃ ts r, pTop f (renderL lay fin b) = (ts, r) ∧ skip r = [] ∧ RBlockB lay.HasBlank args b ts := by
  obtain ⟨ts, h, hR⟩ := topL hl args b hok fin f hf
  exact ⟨ts, [], h, rfl, hR⟩

/-- **PEG round trip in a layout** (indentation, blank lines, last line with or without newline): the tree the grammar
model builds for `renderL lay fin b` represents `b`, with the pairs of the blank lines interleaved -/
theorem C14_parse_layout (lay : Layout) (hl : lay.OK) (fin : Bool) (args : List Str) (b : Block)
    (hok : okAst args b = true) :
    ∃ ts, parseLines (renderL lay fin b) = some (.node "EXP" (renderL lay fin b) ts) ∧
      RBlockB lay.HasBlank args b ts := by
  obtain ⟨ts, r, h1, h2, h3⟩ := C14_parse_layout_fuel lay hl fin args b hok (parseFuel (renderL lay fin b))
    (by have := C14_fuel_boundL lay fin b; simp only [parseFuel]; omega)
  refine ⟨ts, ?_, h3⟩
  simp [parseLines, h1, h2]

/-- indentation only (no blank lines), last line with or without newline — the tree represents
`b` in the strict sense of `C14_interpreter_refines` -/
theorem C14_parse_indent (lay : Layout) (hl : lay.OK) (hH : lay.gapH = 0) (hS : lay.gapS = 0) (fin : Bool)
    (args : List Str) (b : Block) (hok : okAst args b = true) :
    ∃ ts, parseLines (renderL lay fin b) = some (.node "EXP" (renderL lay fin b) ts) ∧ RBlock args b ts := by
  obtain ⟨ts, h1, h2⟩ := C14_parse_layout lay hl fin args b hok
  refine ⟨ts, h1, rBlockB_false (rBlockB_mono ?_ h2)⟩
  rintro (h | h) <;> omega

/-- blank lines only -/
theorem C14_parse_blank (semi : Bool) (bl : Str) (hbl : bl.all isWsP = true) (gapH gapS : Nat) (fin : Bool)
    (args : List Str) (b : Block) (hok : okAst args b = true) :
    ∃ ts, parseLines (renderL (Layout.uniform semi [] bl gapH gapS) fin b) =
        some (.node "EXP" (renderL (Layout.uniform semi [] bl gapH gapS) fin b) ts) ∧
      RBlockB True args b ts := by
  obtain ⟨ts, h1, h2⟩ := C14_parse_layout (Layout.uniform semi [] bl gapH gapS)
    (uniform_ok semi [] bl gapH gapS (by simpa [layoutOkB] using hbl)) fin args b hok
  exact ⟨ts, h1, rBlockB_mono (fun _ => trivial) h2⟩

/-- unit `ind` repeated `depth` times, `k` blank lines after every line -/
theorem C14_parse_layout_uniform (semi : Bool) (ind bl : Str) (k : Nat) (hw : layoutOkB ind bl = true) (fin : Bool)
    (args : List Str) (b : Block) (hok : okAst args b = true) :
    ∃ ts, parseLines (renderL (Layout.uniform semi ind bl k k) fin b) =
        some (.node "EXP" (renderL (Layout.uniform semi ind bl k k) fin b) ts) ∧
      RBlockB (0 < k) args b ts := by
  obtain ⟨ts, h1, h2⟩ := C14_parse_layout (Layout.uniform semi ind bl k k) (uniform_ok semi ind bl k k hw) fin args b hok
  exact ⟨ts, h1, rBlockB_mono (fun h => by rcases h with h | h <;> exact h) h2⟩

/-- **end to end in a layout**: running the text is not a syntax error, and whatever `run_lines` returns is what the
structured semantics of the AST prescribes (`set -e` off) -/
theorem C14_layout_end_to_end {σ} (sem : Sem σ) (lay : Layout) (hl : lay.OK) (fin : Bool) (args : List Str)
    (hE : ∀ s, sem.exitOnError s = false) (b : Block) (hok : okAst args b = true) (f : Nat) (st : σ) :
    runLines sem args f (renderL lay fin b) st ≠ .ok none ∧
    ∀ r, runLines sem args f (renderL lay fin b) st = .ok (some r) →
      ∃ g fl, semBlock sem g b false st = .ok (r.st, fl) := by
  obtain ⟨ts, hp, hR⟩ := C14_parse_layout lay hl fin args b hok
  constructor
  · unfold runLines
    simp only [hp, Outcome.map]
    cases runExp sem args f (PT.node "EXP" (renderL lay fin b) ts).kids false st none <;> simp [Outcome.bind]
  · intro r hrun
    exact C14_script_refines_blank lay.HasBlank sem args hE b _ _ ts hp hR f st r hrun

/-- `C14_parse_render` is the case of the plain layout -/
example (sm : Bool) (args : List Str) (b : Block) (hok : okAst args b = true) :
    ∃ ts, parseLines (render sm b) = some (.node "EXP" (render sm b) ts) ∧ RBlock args b ts := by
  rw [← renderL_plain]; exact C14_parse_indent _ (plain_ok sm) rfl rfl false args b hok

/-! ### non-vacuity -/

mutual
/-- a pair tree as the list of its pairs `(depth, rule, text)` in document order: the form in which the examples below show
a tree (`PT` has no decidable equality) -/
def flatPT (d : Nat) : PT → List (Nat × String × Str)
  | .node r t k => (d, r, t) :: flatPTs (d + 1) k
def flatPTs (d : Nat) : List PT → List (Nat × String × Str)
  | [] => []
  | a :: as => flatPT d a ++ flatPTs d as
end

/-- two blanks per level, blank lines of one tab, one blank line after heads and two after statements -/
def exLay : Layout := Layout.uniform false "  ".toList "\t".toList 1 2

example : exLay.OK := uniform_ok _ _ _ _ _ (by decide +kernel)

/-- `exSmall` (`Thm/C14peg.lean`: `while t / if a / break / else / c / fi / done`) in that layout, last newline missing -/
example : renderL exLay true exSmall =
    "while t\n\t\n  if a\n\t\n    break\n\t\n\t\n  else\n\t\n    c\n\t\n\t\n  fi\n\t\n\t\ndone".toList := by
  lit_lists
  decide +kernel

/-- tabs, the `; then` / `; do` spelling, no blank lines -/
example : renderL (Layout.uniform true "\t".toList [] 0 0) false exSmall =
    "while t; do\n\tif a; then\n\t\tbreak\n\telse\n\t\tc\n\tfi\ndone\n".toList := by
  lit_lists
  decide +kernel

/-- the default layout is the canonical text of `C14_parse_render` -/
example : renderL {} false exSmall = render false exSmall ∧ renderL { semi := true } false exAst = render true exAst := by
  decide +kernel

example : okAst [] exSmall = true := by decide +kernel

/-- an indented top level: every line of depth `d` gets `d + 1` tabs -/
def exLayTop : Layout := { ind := fun d => indentOf "\t".toList (d + 1) }

example : exLayTop.OK := ⟨fun d => indentOf_ws _ (by decide +kernel) (d + 1), fun _ h => by simp [exLayTop] at h⟩

example : renderL exLayTop false exSmall =
    "\twhile t\n\t\tif a\n\t\t\tbreak\n\t\telse\n\t\t\tc\n\t\tfi\n\tdone\n".toList := by
  lit_lists
  decide +kernel

/-- comment lines are `CMD` pairs for the grammar (see the findings), but they are outside the guard: `expand_args` goes
through the tokenizer, which drops the comment, so the line is not "untouched by positional expansion" -/
example : expandArgs [] "# a comment".toList = [] ∧ okAst [] (.cons (.cmd "# a comment".toList) .nil) = false := by
  lit_lists
  decide +kernel

/-- the indented text of `exSmall` without the last newline, parsed: indentation leaves no trace in the pairs (only in the
spans of the blocks) -/
example : (parseLines (renderL (Layout.uniform false "  ".toList [] 0 0) true exSmall)).map (flatPT 0) = some
    [(0, "EXP", "while t\n  if a\n    break\n  else\n    c\n  fi\ndone".toList),
     (1, "EXP_WHILE", "while t\n  if a\n    break\n  else\n    c\n  fi\ndone".toList),
     (2, "WHILE_HEAD", "while t\n".toList), (3, "TEST", "t".toList),
     (2, "EXP_BODY", "if a\n    break\n  else\n    c\n  fi\n".toList),
     (3, "EXP_IF", "if a\n    break\n  else\n    c\n  fi\n".toList),
     (4, "IF_IF_BR", "if a\n    break\n".toList), (5, "IF_HEAD", "if a\n".toList), (6, "TEST", "a".toList),
     (5, "EXP_BODY", "break\n".toList), (6, "CMD", "break\n".toList),
     (4, "IF_ELSE_BR", "else\n    c\n".toList), (5, "KW_ELSE", "else\n".toList),
     (5, "EXP_BODY", "c\n".toList), (6, "CMD", "c\n".toList)] := by
  lit_lists
  decide +kernel

/-- blank lines are `CMD` pairs with text `\n` (in the bodies and at the top level) -/
example : (parseLines "a\n \nif t\n\nb\nfi\n\n".toList).map (flatPT 0) = some
    [(0, "EXP", "a\n \nif t\n\nb\nfi\n\n".toList), (1, "CMD", "a\n".toList), (1, "CMD", "\n".toList),
     (1, "EXP_IF", "if t\n\nb\nfi\n".toList), (2, "IF_IF_BR", "if t\n\nb\n".toList), (3, "IF_HEAD", "if t\n".toList),
     (4, "TEST", "t".toList), (3, "EXP_BODY", "\nb\n".toList), (4, "CMD", "\n".toList), (4, "CMD", "b\n".toList),
     (1, "CMD", "\n".toList)] := by
  lit_lists
  decide +kernel

/-! ### findings: what the grammar does not take as layout -/

/-- an indented stray `fi` on the FIRST line is a command, not a syntax error (compare `C14_stray_fi`) -/
example : (parseLines "  fi\na\n".toList).map (flatPT 0) =
    some [(0, "EXP", "  fi\na\n".toList), (1, "CMD", "  fi\n".toList), (1, "CMD", "a\n".toList)] := by
  lit_lists
  decide +kernel

/-- … on any later line it is a syntax error -/
example : parseLines "a\n  fi\n".toList = none := by
  lit_lists
  decide +kernel

/-- a comment behind `fi` makes the script a syntax error -/
example : parseLines "if a\nb\nfi # x\n".toList = none := by
  lit_lists
  decide +kernel

/-- a comment behind `else` turns the `else` line into a command of the first arm: there is no else-branch -/
example : (parseLines "if a\nb\nelse # x\nc\nfi\n".toList).map (flatPT 0) = some
    [(0, "EXP", "if a\nb\nelse # x\nc\nfi\n".toList), (1, "EXP_IF", "if a\nb\nelse # x\nc\nfi\n".toList),
     (2, "IF_IF_BR", "if a\nb\nelse # x\nc\n".toList), (3, "IF_HEAD", "if a\n".toList), (4, "TEST", "a".toList),
     (3, "EXP_BODY", "b\nelse # x\nc\n".toList), (4, "CMD", "b\n".toList), (4, "CMD", "else # x\n".toList),
     (4, "CMD", "c\n".toList)] := by
  lit_lists
  decide +kernel

/-- comment lines are `CMD` pairs, wherever a command may stand -/
example : (parseLines "# c\nif a\n  # d\n  b\nfi\n".toList).map (flatPT 0) = some
    [(0, "EXP", "# c\nif a\n  # d\n  b\nfi\n".toList), (1, "CMD", "# c\n".toList),
     (1, "EXP_IF", "if a\n  # d\n  b\nfi\n".toList), (2, "IF_IF_BR", "if a\n  # d\n  b\n".toList),
     (3, "IF_HEAD", "if a\n".toList), (4, "TEST", "a".toList), (3, "EXP_BODY", "# d\n  b\n".toList),
     (4, "CMD", "# d\n".toList), (4, "CMD", "b\n".toList)] := by
  lit_lists
  decide +kernel

/-- trailing blanks at the end of lines are accepted (not covered by `C14_parse_layout`) -/
example : (parseLines "if a  \nb \t\nfi  \n".toList).map (flatPT 0) = some
    [(0, "EXP", "if a  \nb \t\nfi  \n".toList), (1, "EXP_IF", "if a  \nb \t\nfi  \n".toList),
     (2, "IF_IF_BR", "if a  \nb \t\n".toList), (3, "IF_HEAD", "if a  \n".toList), (4, "TEST", "a".toList),
     (3, "EXP_BODY", "b \t\n".toList), (4, "CMD", "b \t\n".toList)] := by
  lit_lists
  decide +kernel

/-! ### C05, scripts: the parser never runs out of fuel -/

/-- **C05, script text: parsing is total and never runs out of fuel.**  `parseLines` is a total function by construction
(structural recursion on the fuel), and fuel exhaustion is not a distinct result in the model (`pIf 0 _ = none`,
`pBodyItems 0 s = ([], s)`, `pTop 0 s = ([], s)` look like an ordinary failure / end of repetition).  The honest statement:
for EVERY text `t` the result with the driver's fuel `parseFuel t = 2 * |t| + 4` is the result with any larger fuel — the
fuel bound is never what ends a repetition or fails a rule (`Lemmas/LocustFuel.lean`: every successful item consumes a
character, every nesting level at least three). -/
theorem C05_parse_total (t : Str) (k : Nat) : pTop (parseFuel t) t = pTop (parseFuel t + k) t :=
  pTop_fuel_add t (parseFuel t) (Nat.le_refl _) k

/-- the same for `parse_lines` itself -/
theorem C05_parseLines_total (t : Str) (k : Nat) :
    parseLines t = (let (ts, r) := pTop (parseFuel t + k) t; if skip r = [] then some (.node "EXP" t ts) else none) := by
  unfold parseLines
  rw [← C05_parse_total t k]

/-- every fuel from `2 * |t| + 4` on gives the same pairs (`pTop_fuel_mono`) -/
theorem C05_parse_fuel_mono (t : Str) (f g : Nat) (h : 2 * t.length + 4 ≤ f) (hg : f ≤ g) : pTop f t = pTop g t :=
  pTop_fuel_mono t f g h hg

/-- the inner loops of `CMD` and `TEST` (`repAny` with fuel `|s| + 1`) do not run out of fuel either -/
theorem C05_parse_inner_total (stop : Str → Bool) (s : Str) (k : Nat) :
    repAny stop (s.length + 1) s 0 = repAny stop (s.length + 1 + k) s 0 :=
  repAny_fuel_add stop s 0 k

/-- non-vacuity: below the bound the fuel does matter (7 units: nothing parsed; 8 and `parseFuel`: two items) -/
example : (pTop 7 "if a\nwhile b\nc\ndone\nfi\nd\n".toList).1.length = 0 ∧
    (pTop 8 "if a\nwhile b\nc\ndone\nfi\nd\n".toList).1.length = 2 ∧
    (pTop (parseFuel "if a\nwhile b\nc\ndone\nfi\nd\n".toList) "if a\nwhile b\nc\ndone\nfi\nd\n".toList).1.length = 2 := by
  lit_lists
  decide +kernel

end Cicada.C14
