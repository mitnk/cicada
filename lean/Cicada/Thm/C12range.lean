import Cicada.Thm.C12
import Cicada.Lemmas.Lit
/-!
# C12 — the range pass `{m..n}` / `{m..n..k}` yields exactly the inclusive arithmetic sequence

`C12_range_seq`: for every start `s`, every i32 end `e` and every increment `k ≥ 1`, the two `while` loops of
`expand_brace_range` (`rangeSeq`, run with the model's own fuel `|s-e|/k + 2`) produce the decimal renderings of
`rangeSpec s e k (rangeCount s e k)` (Spec/C12.lean): `s, s±k, …` toward `e`, inclusive of `e` iff reachable.  The i32
boundary (`checked_add` / `checked_sub` failing) never cuts the sequence short: the loop stops there only when the next
element would be beyond `e` anyway (`rangeSeq_spec`).  An increment `≤ 1` counts as 1; for a bound or increment that does not fit an `i32` the token answers `.abort`, on which
`expandBraceRange` returns the line unchanged by definition.
Outside: the bounds are related to the texts through `parseI32 m = some s` (a hypothesis, decidable on the input), not
through an independent decimal reader; the odd regex forms `{1..3..}` and tokens with a second range are not covered.
-/
namespace Cicada.C12
open Cicada

theorem p31 : (2 : Int) ^ 31 = 2147483648 := by decide

/-- the loop in either direction: with `c·k ≤ |stop - n| < c·k + k`, fuel `c + 2` yields the `c + 1` elements from `n` on.
`m` stands for `c·k`, so that the side conditions are linear.  The `i32` boundary never cuts the sequence short: the
next element is computed only while it is still on this side of `stop`. -/
theorem rangeSeq_spec (start stop k : Int) (hk : 1 ≤ k) (he : -(2 ^ 31) ≤ stop ∧ stop < 2 ^ 31) :
    ∀ (c : Nat) (m n : Int) (acc : List Str), m = c * k →
      m ≤ (if start > stop then n - stop else stop - n) → (if start > stop then n - stop else stop - n) < m + k →
      rangeSeq start stop k (c + 2) n acc = acc ++ (rangeSpec n stop k (c + 1)).map showInt := by
  intro c
  induction c with
  | zero =>
    intro m n acc hm h1 h2
    rw [Int.natCast_zero, Int.zero_mul] at hm
    subst hm
    by_cases h : start > stop
    · rw [if_pos h] at h1 h2
      have hn : n ≥ stop := by omega
      have hn' : ¬ n - k ≥ stop := by omega
      simp [rangeSeq, rangeSpec, h, hn, hn']
    · rw [if_neg h] at h1 h2
      have hn : n ≤ stop := by omega
      have hn' : ¬ n + k ≤ stop := by omega
      simp [rangeSeq, rangeSpec, h, hn, hn']
  | succ c ih =>
    intro m n acc hm h1 h2
    rw [Int.natCast_succ, Int.add_mul, Int.one_mul] at hm
    have hck : 0 ≤ (c : Int) * k := Int.mul_nonneg (Int.natCast_nonneg c) (by omega)
    rw [rangeSeq, rangeSpec]
    by_cases h : start > stop
    · rw [if_pos h] at h1 h2
      have hn : n ≥ stop := by omega
      have hn' : ¬ n ≤ stop := by omega
      have hb : ¬ n - k < -(2 ^ 31) := by omega
      simp only [h, hn, hn', hb, if_true, if_false]
      rw [ih (c * k) (n - k) _ rfl (by rw [if_pos h]; omega) (by rw [if_pos h]; omega)]
      simp
    · rw [if_neg h] at h1 h2
      have hn : n ≤ stop := by omega
      have hb : ¬ n + k ≥ 2 ^ 31 := by omega
      simp only [h, hn, hb, if_true, if_false]
      rw [ih (c * k) (n + k) _ rfl (by rw [if_neg h]; omega) (by rw [if_neg h]; omega)]
      simp

theorem div_bounds (d k : Int) (hd : 0 ≤ d) (hk : 1 ≤ k) :
    (((d / k).toNat : Nat) : Int) * k ≤ d ∧ d < (((d / k).toNat : Nat) : Int) * k + k := by
  rw [Int.toNat_of_nonneg (Int.ediv_nonneg hd (by omega))]
  have := Int.lt_ediv_add_one_mul_self d (show 0 < k by omega)
  rw [Int.add_mul, Int.one_mul] at this
  exact ⟨Int.ediv_mul_le d (by omega), this⟩

/-- **the range loop yields exactly the inclusive arithmetic sequence** -/
theorem C12_range_seq (s e k : Int) (he : -(2 ^ 31) ≤ e ∧ e < 2 ^ 31) (hk : 1 ≤ k) :
    rangeSeq s e k (((if s > e then s - e else e - s) / k).toNat + 2) s [] =
      (rangeSpec s e k (rangeCount s e k)).map showInt := by
  have hd : (if s ≤ e then e - s else s - e) = (if s > e then s - e else e - s) := by
    split <;> split <;> omega
  obtain ⟨b1, b2⟩ := div_bounds (if s > e then s - e else e - s) k (by split <;> omega) hk
  rw [rangeCount, hd]
  exact rangeSeq_spec s e k hk he _ _ s [] rfl b1 b2

/-- `up` is the direction the caller knows (`m ≤ n` or not); the side condition ties it to `m`, `n` -/
theorem rangeSpec_closed (n s : Int) (hs : 1 ≤ s) (up : Bool) : ∀ (c : Nat) (m : Int),
    (c : Int) * s ≤ (if up then n - m else m - n) + s →
    rangeSpec m n s c = (List.range c).map (fun (i : Nat) => if up then m + (i : Int) * s else m - (i : Int) * s) := by
  intro c
  induction c with
  | zero => intro m _; rfl
  | succ c ih =>
    intro m h
    cases c with
    | zero => simp [rangeSpec]
    | succ c =>
      simp only [Int.natCast_succ, Int.add_mul, Int.one_mul] at h ih
      have hcs : 0 ≤ (c : Int) * s := Int.mul_nonneg (Int.natCast_nonneg c) (by omega)
      rw [rangeSpec, List.range_succ_eq_map, List.map_cons, List.map_map]
      cases up
      · have hm : ¬ m ≤ n := by simp only [Bool.false_eq_true, if_false] at h; omega
        rw [if_neg hm, ih (m - s) (by simp only [Bool.false_eq_true, if_false] at h ⊢; omega)]
        simp only [Bool.false_eq_true, if_false, Int.natCast_zero, Int.zero_mul, Int.sub_zero, List.cons.injEq, true_and]
        apply List.map_congr_left
        intro i _
        simp only [Function.comp, Int.natCast_succ, Int.add_mul, Int.one_mul]
        omega
      · have hm : m ≤ n := by simp only [if_true] at h; omega
        rw [if_pos hm, ih (m + s) (by simp only [if_true] at h ⊢; omega)]
        simp only [if_true, Int.natCast_zero, Int.zero_mul, Int.add_zero, List.cons.injEq, true_and]
        apply List.map_congr_left
        intro i _
        simp only [Function.comp, Int.natCast_succ, Int.add_mul, Int.one_mul]
        omega

/-- `[0-9]+` -/
def isDigits (ds : Str) : Bool := !ds.isEmpty && ds.all isDigitA
/-- `-?[0-9]+` -/
def isIntText : Str → Bool
  | '-' :: ds => isDigits ds
  | ds => isDigits ds

def noDigitHead : Str → Bool
  | [] => true
  | c :: _ => !isDigitA c

theorem span_digits (ds rest : Str) (hd : ds.all isDigitA = true) (hr : noDigitHead rest = true) :
    (ds ++ rest).takeWhile isDigitA = ds ∧ (ds ++ rest).dropWhile isDigitA = rest := by
  rw [List.takeWhile_append_of_pos (List.all_eq_true.mp hd), List.dropWhile_append_of_pos (List.all_eq_true.mp hd)]
  cases rest with
  | nil => simp
  | cons c cs =>
    have : isDigitA c = false := by simpa [noDigitHead] using hr
    simp [this]

theorem takeInt_text (t rest : Str) (ht : isIntText t = true) (hr : noDigitHead rest = true) :
    takeInt (t ++ rest) = some (t, rest) := by
  cases t with
  | nil => simp [isIntText, isDigits] at ht
  | cons c cs =>
    by_cases hc : c = '-'
    · subst hc
      simp only [isIntText, isDigits, Bool.and_eq_true, Bool.not_eq_true', List.isEmpty_eq_false_iff] at ht
      obtain ⟨h1, h2⟩ := span_digits cs rest ht.2 hr
      simp [takeInt, h1, h2, ht.1]
    · rw [isIntText] at ht
      · simp only [isDigits, Bool.and_eq_true] at ht
        obtain ⟨h1, h2⟩ := span_digits (c :: cs) rest ht.2 hr
        rw [List.cons_append] at h1 h2
        simp [takeInt, hc, h1, h2]
      · exact fun r e => hc (List.cons.inj e).1
theorem rangeAt_plain (m n post : Str) (hm : isIntText m = true) (hn : isIntText n = true) :
    rangeAt (m ++ '.' :: '.' :: (n ++ '}' :: post)) = some (m, n, none, post) := by
  unfold rangeAt
  rw [takeInt_text m _ hm (by rfl)]
  simp only
  rw [takeInt_text n _ hn (by rfl)]
  simp [List.takeWhile, List.dropWhile, isDigitA]

theorem rangeAt_incr (m n k post : Str) (hm : isIntText m = true) (hn : isIntText n = true) (hk : isDigits k = true) :
    rangeAt (m ++ '.' :: '.' :: (n ++ '.' :: '.' :: (k ++ '}' :: post))) = some (m, n, some k, post) := by
  simp only [isDigits, Bool.and_eq_true, Bool.not_eq_true', List.isEmpty_eq_false_iff] at hk
  obtain ⟨h1, h2⟩ := span_digits k ('}' :: post) hk.2 (by rfl)
  unfold rangeAt
  rw [takeInt_text m _ hm (by rfl)]
  simp only
  rw [takeInt_text n _ hn (by rfl)]
  simp only [h1, h2, hk.1, ↓reduceIte]

theorem findRangeGo_pre (pre : Str) (hp : ∀ c ∈ pre, c ≠ '{') (body : Str) (r) (hr : rangeAt body = some r) :
    ∀ acc, findRangeGo acc (pre ++ '{' :: body) = some (acc ++ pre, r.1, r.2.1, r.2.2.1, r.2.2.2) := by
  induction pre with
  | nil =>
    intro acc
    obtain ⟨a, b, i, after⟩ := r
    simp [findRangeGo, hr]
  | cons c cs ih =>
    intro acc
    have hc := hp c (by simp)
    simp only [List.cons_append, findRangeGo, hc, ↓reduceIte]
    rw [ih (fun x hx => hp x (by simp [hx]))]
    simp

theorem findRange_pre (pre body : Str) (hp : ∀ c ∈ pre, c ≠ '{') {a b : Str} {i : Option Str} {after : Str}
    (hr : rangeAt body = some (a, b, i, after)) : findRange (pre ++ '{' :: body) = some (pre, a, b, i, after) := by
  rw [findRange, findRangeGo_pre pre hp _ _ hr, List.nil_append]

theorem parseI32_range (t : Str) (z : Int) (h : parseI32 t = some z) : -(2 ^ 31) ≤ z ∧ z < 2 ^ 31 := by
  unfold parseI32 at h
  split at h
  simp only [Option.ite_none_left_eq_some, Option.ite_none_right_eq_some, Option.some.injEq] at h
  obtain ⟨_, hr, rfl⟩ := h
  exact hr

/-- **a range token** `pre{m..n}post` becomes one word per element of the sequence, each between `pre` and `post` -/
theorem C12_range_token (pre m n post : Str) (s e : Int) (hp : ∀ c ∈ pre, c ≠ '{')
    (hm : isIntText m = true) (hn : isIntText n = true) (hs : parseI32 m = some s) (he : parseI32 n = some e) :
    rangeToken [] (pre ++ '{' :: (m ++ '.' :: '.' :: (n ++ '}' :: post))) =
      .items ((rangeSpec s e 1 (rangeCount s e 1)).map (fun z => pre ++ showInt z ++ post)) := by
  unfold rangeToken
  rw [findRange_pre pre _ hp (rangeAt_plain m n post hm hn)]
  simp only [ne_eq, not_true_eq_false, ↓reduceIte, hs, he, Int.le_refl]
  rw [C12_range_seq s e 1 (parseI32_range n e he) (Int.le_refl 1), List.map_map]
  rfl

/-- with an increment: `pre{m..n..k}post`; an increment below 1 counts as 1 -/
theorem C12_range_token_incr (pre m n kt post : Str) (s e k : Int) (hp : ∀ c ∈ pre, c ≠ '{')
    (hm : isIntText m = true) (hn : isIntText n = true) (hkt : isDigits kt = true)
    (hs : parseI32 m = some s) (he : parseI32 n = some e) (hk : parseI32 kt = some k) :
    rangeToken [] (pre ++ '{' :: (m ++ '.' :: '.' :: (n ++ '.' :: '.' :: (kt ++ '}' :: post)))) =
      .items ((rangeSpec s e (if k ≤ 1 then 1 else k) (rangeCount s e (if k ≤ 1 then 1 else k))).map
        (fun z => pre ++ showInt z ++ post)) := by
  unfold rangeToken
  rw [findRange_pre pre _ hp (rangeAt_incr m n kt post hm hn hkt)]
  simp only [ne_eq, not_true_eq_false, ↓reduceIte, hs, he, hk]
  rw [C12_range_seq s e _ (parseI32_range n e he) (by split <;> omega), List.map_map]
  rfl

/-- a bound or an increment that does not fit an `i32` aborts the pass (the code prints a diagnostic and returns) -/
theorem C12_range_token_abort (pre m n post : Str) (hp : ∀ c ∈ pre, c ≠ '{')
    (hm : isIntText m = true) (hn : isIntText n = true) (h : parseI32 m = none ∨ parseI32 n = none) :
    rangeToken [] (pre ++ '{' :: (m ++ '.' :: '.' :: (n ++ '}' :: post))) = .abort := by
  unfold rangeToken
  rw [findRange_pre pre _ hp (rangeAt_plain m n post hm hn)]
  simp only [ne_eq, not_true_eq_false, ↓reduceIte]
  rcases h with h | h
  · rw [h]
  · rw [h]; cases parseI32 m <;> rfl

theorem C12_range_token_incr_abort (pre m n kt post : Str) (hp : ∀ c ∈ pre, c ≠ '{')
    (hm : isIntText m = true) (hn : isIntText n = true) (hkt : isDigits kt = true)
    (h : parseI32 m = none ∨ parseI32 n = none ∨ parseI32 kt = none) :
    rangeToken [] (pre ++ '{' :: (m ++ '.' :: '.' :: (n ++ '.' :: '.' :: (kt ++ '}' :: post)))) = .abort := by
  unfold rangeToken
  rw [findRange_pre pre _ hp (rangeAt_incr m n kt post hm hn hkt)]
  simp only [ne_eq, not_true_eq_false, ↓reduceIte]
  rcases h with h | h | h
  · rw [h]
  · rw [h]; cases parseI32 m <;> rfl
  · rw [h]; cases parseI32 m <;> cases parseI32 n <;> rfl

theorem rangeCount_bounds (s e k : Int) (hk : 1 ≤ k) :
    ((rangeCount s e k : Nat) : Int) * k - k ≤ (if s ≤ e then e - s else s - e) ∧
      (if s ≤ e then e - s else s - e) < ((rangeCount s e k : Nat) : Int) * k := by
  obtain ⟨b1, b2⟩ := div_bounds (if s ≤ e then e - s else s - e) k (by split <;> omega) hk
  simp only [rangeCount, Int.natCast_succ, Int.add_mul, Int.one_mul]
  omega

/-- ascending, closed form: `s, s+k, …` as long as `≤ e` -/
theorem C12_range_seq_asc (s e k : Int) (he : -(2 ^ 31) ≤ e ∧ e < 2 ^ 31) (hk : 1 ≤ k) (h : s ≤ e) :
    rangeSeq s e k (((if s > e then s - e else e - s) / k).toNat + 2) s [] =
      (List.range (rangeCount s e k)).map (fun (i : Nat) => showInt (s + (i : Int) * k)) := by
  have hc := (rangeCount_bounds s e k hk).1
  rw [if_pos h] at hc
  rw [C12_range_seq s e k he hk, rangeSpec_closed e k hk true _ s (by rw [if_pos rfl]; omega), List.map_map]
  rfl

/-- descending, closed form: `s, s-k, …` as long as `≥ e` -/
theorem C12_range_seq_desc (s e k : Int) (he : -(2 ^ 31) ≤ e ∧ e < 2 ^ 31) (hk : 1 ≤ k) (h : e < s) :
    rangeSeq s e k (((if s > e then s - e else e - s) / k).toNat + 2) s [] =
      (List.range (rangeCount s e k)).map (fun (i : Nat) => showInt (s - (i : Int) * k)) := by
  have hc := (rangeCount_bounds s e k hk).1
  rw [if_neg (by omega)] at hc
  rw [C12_range_seq s e k he hk, rangeSpec_closed e k hk false _ s (by rw [if_neg (by decide)]; omega), List.map_map]
  rfl

theorem C12_range_pass (pre m n post : Str) (s e : Int) (hp : ∀ c ∈ pre, c ≠ '{')
    (hm : isIntText m = true) (hn : isIntText n = true) (hs : parseI32 m = some s) (he : parseI32 n = some e) :
    expandBraceRange [([], pre ++ '{' :: (m ++ '.' :: '.' :: (n ++ '}' :: post)))] =
      (rangeSpec s e 1 (rangeCount s e 1)).map (fun z => tagBlank (pre ++ showInt z ++ post)) := by
  simp [expandBraceRange, expandRangeGo, C12_range_token pre m n post s e hp hm hn hs he, List.map_map]

-- at the `i32` boundary: the sequence ends at 2147483645, the overflowing next element is never produced
example : rangeSeq 2147483640 2147483647 5 (((if (2147483640:Int) > 2147483647 then (2147483640:Int) - 2147483647 else 2147483647 - 2147483640) / 5).toNat + 2) 2147483640 []
   = ["2147483640".toList, "2147483645".toList] := by decide +kernel
example : (rangeSpec 2147483640 2147483647 5 (rangeCount 2147483640 2147483647 5)) = [2147483640, 2147483645] := by decide +kernel
example : rangeToken [] "a{1..3}b".toList = .items ["a1b".toList, "a2b".toList, "a3b".toList] := by
  lit_lists
  exact (C12_range_token ['a'] ['1'] ['3'] ['b'] 1 3 (by decide) (by decide) (by decide) (by decide +kernel) (by decide +kernel)).trans
    (congrArg RangeRes.items (by decide +kernel))
example : rangeToken [] "x{5..-4..3}".toList = .items ["x5".toList, "x2".toList, "x-1".toList, "x-4".toList] := by
  lit_lists
  exact (C12_range_token_incr ['x'] ['5'] ['-', '4'] ['3'] [] 5 (-4) 3 (by decide) (by decide) (by decide) (by decide)
    (by decide +kernel) (by decide +kernel) (by decide +kernel)).trans (congrArg RangeRes.items (by decide +kernel))
example : rangeToken [] "{1..2147483648}".toList = .abort := by
  lit_lists
  exact C12_range_token_abort [] ['1'] ['2', '1', '4', '7', '4', '8', '3', '6', '4', '8'] [] (by decide) (by decide) (by decide +kernel)
    (Or.inr (by decide +kernel))

end Cicada.C12
