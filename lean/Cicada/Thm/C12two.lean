import Cicada.Thm.C12glob
/-!
# C12, filename expansion: every glob word of a line has its OWN "nothing matched, keep the pattern" fallback

`globSpec` is by definition a `flatMap` over the tokens (`ownGlob` names its per-token function, `visibleOf` the visible
matches inside `globWords`), so `C12_glob_flatMap` is `C12_glob_refines` read token by token: whether one glob word matched
has no influence on any other word, for any number of glob words in any order.  `C12_glob_append` is the consequence for
concatenated lines.

`C12_each_glob_own_fallback` : the line `[p, ("", pat1), ("", pat2)]` where `pat1` has a visible match and `pat2` has
none yields `p`, the visible matches of `pat1`, then `pat2` itself (it does not vanish because `pat1` matched).
`C12_each_glob_own_fallback'` : the same with the two glob words swapped.
-/
namespace Cicada.C12
open Cicada

/-- the expansion of ONE token: depends on that token and the matcher only -/
def ownGlob (glob : Str → Option (List Str)) (t : Tok) : List Tok :=
  if t.1 = [] ∧ t.2.contains '*' then (globWords ((glob t.2).getD []) t.2).map tagBlank else [t]

def visibleOf (glob : Str → Option (List Str)) (pat : Str) : List Str :=
  ((glob pat).getD []).filter (fun p => !hiddenFor pat p)

theorem globSpec_eq_flatMap (glob : Str → Option (List Str)) (ts : List Tok) :
    globSpec glob ts = ts.flatMap (ownGlob glob) := rfl

/-- **C12: the filename pass is tokenwise** — the concatenation of each token's own expansion -/
theorem C12_glob_flatMap (e : Env) (ts : List Tok) (h : ts.all (globOk e) = true) :
    expandGlob e ts = ts.flatMap (ownGlob e.glob) := by
  rw [C12_glob_refines e ts h]; rfl

theorem C12_glob_append (e : Env) (ts us : List Tok) (h : (ts ++ us).all (globOk e) = true) :
    expandGlob e (ts ++ us) = expandGlob e ts ++ expandGlob e us := by
  have h' := h
  simp only [List.all_append, Bool.and_eq_true] at h'
  rw [C12_glob_flatMap e _ h, C12_glob_flatMap e _ h'.1, C12_glob_flatMap e _ h'.2, List.flatMap_append]

theorem ownGlob_plain (glob : Str → Option (List Str)) (t : Tok) (h : ¬ (t.1 = [] ∧ t.2.contains '*' = true)) :
    ownGlob glob t = [t] := by
  unfold ownGlob; rw [if_neg h]

theorem ownGlob_pattern (glob : Str → Option (List Str)) (pat : Str) (hc : pat.contains '*' = true) :
    ownGlob glob ([], pat) = (if visibleOf glob pat = [] then [pat] else visibleOf glob pat).map tagBlank :=
  if_pos ⟨rfl, hc⟩

theorem ownGlob_match (glob : Str → Option (List Str)) (pat : Str) (hc : pat.contains '*' = true)
    (hv : visibleOf glob pat ≠ []) : ownGlob glob ([], pat) = (visibleOf glob pat).map tagBlank := by
  rw [ownGlob_pattern glob pat hc, if_neg hv]

theorem ownGlob_nomatch (glob : Str → Option (List Str)) (pat : Str) (hc : pat.contains '*' = true)
    (hv : visibleOf glob pat = []) (hb : pat.contains ' ' = false) : ownGlob glob ([], pat) = [([], pat)] := by
  rw [ownGlob_pattern glob pat hc, if_pos hv, List.map_singleton, tagBlank, hb]
  rfl

/-- **C12: each glob word has its own fallback** — a first glob word that matched does not make a second, unmatched
one vanish (`hb2`: a kept word without a blank keeps the empty tag) -/
theorem C12_each_glob_own_fallback (e : Env) (p : Tok) (pat1 pat2 : Str)
    (hok : [p, ([], pat1), ([], pat2)].all (globOk e) = true)
    (hp : ¬ (p.1 = [] ∧ p.2.contains '*' = true))
    (h1 : pat1.contains '*' = true) (h2 : pat2.contains '*' = true) (hb2 : pat2.contains ' ' = false)
    (hv1 : visibleOf e.glob pat1 ≠ []) (hv2 : visibleOf e.glob pat2 = []) :
    expandGlob e [p, ([], pat1), ([], pat2)] = p :: ((visibleOf e.glob pat1).map tagBlank ++ [([], pat2)]) := by
  rw [C12_glob_flatMap e _ hok]
  simp only [List.flatMap_cons, List.flatMap_nil, ownGlob_plain _ p hp, ownGlob_match _ pat1 h1 hv1,
    ownGlob_nomatch _ pat2 h2 hv2 hb2, List.append_nil, List.cons_append, List.nil_append]

theorem C12_each_glob_own_fallback' (e : Env) (p : Tok) (pat1 pat2 : Str)
    (hok : [p, ([], pat2), ([], pat1)].all (globOk e) = true)
    (hp : ¬ (p.1 = [] ∧ p.2.contains '*' = true))
    (h1 : pat1.contains '*' = true) (h2 : pat2.contains '*' = true) (hb2 : pat2.contains ' ' = false)
    (hv1 : visibleOf e.glob pat1 ≠ []) (hv2 : visibleOf e.glob pat2 = []) :
    expandGlob e [p, ([], pat2), ([], pat1)] = p :: ([], pat2) :: (visibleOf e.glob pat1).map tagBlank := by
  rw [C12_glob_flatMap e _ hok]
  simp only [List.flatMap_cons, List.flatMap_nil, ownGlob_plain _ p hp, ownGlob_match _ pat1 h1 hv1,
    ownGlob_nomatch _ pat2 h2 hv2 hb2, List.append_nil, List.cons_append, List.nil_append]

/-! ### non-vacuity: `prog *.txt *.zzz` with `*.txt ↦ [a.txt]`, `*.zzz ↦ []` -/
def twoGlob : Str → Option (List Str) := fun p =>
  if p = "*.txt".toList then some ["a.txt".toList] else if p = "*.zzz".toList then some [] else none

def twoLine : List Tok := [([], "prog".toList), ([], "*.txt".toList), ([], "*.zzz".toList)]

example : twoLine.all (globOk { glob := twoGlob }) = true := by decide +kernel
example : ¬ ((([], "prog".toList) : Tok).1 = [] ∧ (([], "prog".toList) : Tok).2.contains '*' = true) := by decide +kernel
example : "*.txt".toList.contains '*' = true ∧ "*.zzz".toList.contains '*' = true ∧
    "*.zzz".toList.contains ' ' = false := by decide +kernel
example : visibleOf twoGlob "*.txt".toList ≠ [] ∧ visibleOf twoGlob "*.zzz".toList = [] := by decide +kernel
example : expandGlob { glob := twoGlob } twoLine =
    [([], "prog".toList), ([], "a.txt".toList), ([], "*.zzz".toList)] := by decide +kernel
example : expandGlob { glob := twoGlob } [([], "prog".toList), ([], "*.zzz".toList), ([], "*.txt".toList)] =
    [([], "prog".toList), ([], "*.zzz".toList), ([], "a.txt".toList)] := by decide +kernel

end Cicada.C12

#print axioms Cicada.C12.C12_glob_flatMap
#print axioms Cicada.C12.C12_glob_append
#print axioms Cicada.C12.C12_each_glob_own_fallback
#print axioms Cicada.C12.C12_each_glob_own_fallback'
