import Cicada.Lemmas.Pratt
import Mathlib.Tactic.Ring   -- for Mathlib's monoid power, through which `^` in the statements of Thm/C19pow.lean elaborates; `ring` is not used
/-!
# C19 — arithmetic lines evaluate with standard precedence and never crash the shell

`C19_pratt`: pest's Pratt loop with the table of `calculator/mod.rs` (regenerated into `Generated.prattLevels` on every
run) parses the flat form of every tree that standard precedence (`^` > `* /` >
`+ -`) and associativity (`^` right, the others left) print without parentheses back to exactly that tree.
Parenthesised sub-expressions are atoms of the outer level (pest groups them before the loop).
`C19_classify`: the classification rule, both directions.  `C19_wrap_hom`: in 64-bit integer mode `+ - *` give the
exact result reduced to the two's-complement range (intermediate wrapping does not matter).  `C19_div`: truncation
toward zero, `/ 0` saturates, `MIN / -1` wraps to `MIN`.  Crash freedom is `C05_calc_no_panic` (Thm/C05.lean).
Float mode is modelled in Model/CalcFloat.lean; no theorem speaks of it (Lean's `Float` is opaque to the kernel).
-/
namespace Cicada.Calc

variable {α : Type}

/-- **precedence and associativity**: the flat form of a parenthesis-free tree parses back to the tree -/
theorem C19_pratt (e : E α) (h : WF e) (f : Nat) (r) (hr : loop f (.atom (hd e)) 0 (tl e) = some r) : r = (e, []) := by
  obtain ⟨g, hg⟩ := pratt_roundtrip e h
  exact loop_det hr hg

theorem C19_pratt_terminates (e : E α) (h : WF e) : ∃ g, loop g (.atom (hd e)) 0 (tl e) = some (e, []) :=
  pratt_roundtrip e h

end Cicada.Calc

namespace Cicada.C19
open Cicada Cicada.Calc

/-- `C19_pratt` for the model's `pratt` with its own fuel (`2·length + 2`; the loop answers within `length + 1`) -/
theorem C19_pratt_fuel {α : Type} (e : E α) (h : WF e) : pratt (hd e) (tl e) = some e := by
  obtain ⟨r, hr, _⟩ := loop_total (2 * (tl e).length + 2) (.atom (hd e)) 0 (tl e) (by omega)
  obtain ⟨g, hg⟩ := pratt_roundtrip e h
  rw [pratt, hr, loop_det hr hg]; rfl

end Cicada.C19

namespace Cicada.Calc

theorem reArithShape_concat (init : Str) (c : Char) :
    reArithShape (init ++ [c]) = (!init.isEmpty && init.all arithBody && arithLast c) := by
  simp only [reArithShape, List.getLast?_concat, List.dropLast_concat]

theorem reArithShape_iff (s : Str) :
    reArithShape s = true ↔ ∃ init last, s = init ++ [last] ∧ init ≠ [] ∧ init.all arithBody = true ∧ arithLast last = true := by
  rcases List.eq_nil_or_concat s with rfl | ⟨init, c, rfl⟩
  · exact ⟨fun h => Bool.noConfusion h, fun ⟨i, l, h, _⟩ => absurd h.symm (List.append_ne_nil_of_right_ne_nil _ (List.cons_ne_nil _ _))⟩
  · rw [List.concat_eq_append, reArithShape_concat]
    simp only [Bool.and_eq_true, Bool.not_eq_true', List.isEmpty_eq_false_iff, and_assoc]
    constructor
    · exact fun h => ⟨init, c, rfl, h⟩
    · rintro ⟨i, l, e, h⟩
      obtain ⟨rfl, rfl⟩ := List.append_singleton_inj.1 e
      exact h

/-- **the classification rule**: a line is arithmetic iff it holds a digit and an operator, consists of
digits, `.`, operators, parentheses and blanks only, and ends in a digit, `.`, blank or `)` -/
theorem C19_classify (s : Str) :
    isArithmetic s = true ↔
      (s.any isDigitA = true ∧ s.any arithOp = true ∧
        ∃ init last, s = init ++ [last] ∧ init ≠ [] ∧ init.all arithBody = true ∧ arithLast last = true) := by
  simp only [isArithmetic, Bool.and_eq_true, reArithShape_iff, and_assoc]

/-- exact evaluation over the integers (reference) -/
def evalZ : E Int → Int
  | .atom v => v
  | .bin .add l r => evalZ l + evalZ r
  | .bin .sub l r => evalZ l - evalZ r
  | .bin .mul l r => evalZ l * evalZ r
  | .bin .div l r => Int.tdiv (evalZ l) (evalZ r)
  | .bin .pow l r => evalZ l ^ (evalZ r).toNat

def Ring3 : E Int → Prop
  | .atom _ => True
  | .bin o l r => (o = .add ∨ o = .sub ∨ o = .mul) ∧ Ring3 l ∧ Ring3 r

/-- `wrap64` picks the representative of the residue modulo 2^64 in the signed 64-bit range -/
theorem wrap64_mod (x : Int) : wrap64 x % 2 ^ 64 = x % 2 ^ 64 := by
  rw [wrap64, Int.sub_emod, Int.emod_emod, ← Int.sub_emod, Int.add_sub_cancel]

theorem wrap64_eq_iff {x y : Int} : wrap64 x = wrap64 y ↔ x % 2 ^ 64 = y % 2 ^ 64 :=
  ⟨fun h => by rw [← wrap64_mod x, h, wrap64_mod], fun h => by rw [wrap64, wrap64, Int.add_emod, h, ← Int.add_emod]⟩

theorem wrap64_idem (x : Int) : wrap64 (wrap64 x) = wrap64 x := wrap64_eq_iff.2 (wrap64_mod x)

theorem wrap64_hom (op : Int → Int → Int) (hop : ∀ a b, op a b % 2 ^ 64 = op (a % 2 ^ 64) (b % 2 ^ 64) % 2 ^ 64)
    {a a' b b' : Int} (ha : wrap64 a = wrap64 a') (hb : wrap64 b = wrap64 b') : wrap64 (op a b) = wrap64 (op a' b') :=
  wrap64_eq_iff.2 (by rw [hop a b, wrap64_eq_iff.1 ha, wrap64_eq_iff.1 hb, ← hop])

theorem wrap64_add (a b : Int) : wrap64 (wrap64 a + wrap64 b) = wrap64 (a + b) :=
  wrap64_hom (· + ·) (fun a b => Int.add_emod a b _) (wrap64_idem a) (wrap64_idem b)

theorem wrap64_sub (a b : Int) : wrap64 (wrap64 a - wrap64 b) = wrap64 (a - b) :=
  wrap64_hom (· - ·) (fun a b => Int.sub_emod a b _) (wrap64_idem a) (wrap64_idem b)

theorem wrap64_mul (a b : Int) : wrap64 (wrap64 a * wrap64 b) = wrap64 (a * b) :=
  wrap64_hom (· * ·) (fun a b => Int.mul_emod a b _) (wrap64_idem a) (wrap64_idem b)

theorem evalTree_bin {o : Op} {l r : E Int} {a b : Int} (ha : evalTree l = .ok a) (hb : evalTree r = .ok b) :
    evalTree (.bin o l r) = applyOp o a b := by
  simp only [evalTree, ha, hb, Outcome.bind]

theorem evalTree_ring {o : Op} (ho : o = .add ∨ o = .sub ∨ o = .mul) {l r : E Int}
    (hl : ∃ a, evalTree l = .ok a ∧ wrap64 a = wrap64 (evalZ l))
    (hr : ∃ b, evalTree r = .ok b ∧ wrap64 b = wrap64 (evalZ r)) :
    ∃ v, evalTree (.bin o l r) = .ok v ∧ wrap64 v = wrap64 (evalZ (.bin o l r)) := by
  obtain ⟨a, ha1, ha2⟩ := hl
  obtain ⟨b, hb1, hb2⟩ := hr
  rcases ho with rfl | rfl | rfl
  · exact ⟨_, evalTree_bin ha1 hb1, by rw [wrap64_idem, evalZ, ← wrap64_add a, ha2, hb2, wrap64_add]⟩
  · exact ⟨_, evalTree_bin ha1 hb1, by rw [wrap64_idem, evalZ, ← wrap64_sub a, ha2, hb2, wrap64_sub]⟩
  · exact ⟨_, evalTree_bin ha1 hb1, by rw [wrap64_idem, evalZ, ← wrap64_mul a, ha2, hb2, wrap64_mul]⟩

/-- **wrapping is exact arithmetic modulo 2^64**: for `+ - *` trees over 64-bit operands the value computed
with wrap-around at every step is the exact integer result reduced to the 64-bit range -/
theorem C19_wrap_hom (t : E Int) (h : Ring3 t) :
    ∃ r, evalTree t = .ok r ∧ wrap64 r = wrap64 (evalZ t) := by
  induction t with
  | atom v => exact ⟨v, rfl, rfl⟩
  | bin o l r ihl ihr => exact evalTree_ring h.1 (ihl h.2.1) (ihr h.2.2)

/-- **division**: truncation toward zero; by zero saturates by sign; `MIN / -1` wraps to `MIN` -/
theorem C19_div (l r : Int) :
    applyOp .div l r = .ok (if r = 0 then (if l > 0 then i64Max else if l < 0 then i64Min else 0) else wrap64 (Int.tdiv l r)) :=
  (apply_ite Outcome.ok _ _ _).symm

theorem C19_div_min : applyOp .div i64Min (-1) = .ok i64Min := by decide

/-- `1 + 2 * 3 ^ 2 ^ 2 - 4` -/
def wTree : E Int := .bin .sub (.bin .add (.atom 1) (.bin .mul (.atom 2) (.bin .pow (.atom 3) (.bin .pow (.atom 2) (.atom 2))))) (.atom 4)
example : WF wTree := by
  obtain ⟨t1, t2, t3, _, t5, t6, t7, t8, t9, _⟩ := table_facts
  simp [wTree, WF, rootPrec, t1, t2, t3, t5, t6, t7, t8, t9]
example : tl wTree = [(.add, 2), (.mul, 3), (.pow, 2), (.pow, 2), (.sub, 4)] := by rfl

end Cicada.Calc
