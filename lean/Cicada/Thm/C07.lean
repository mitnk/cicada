import Cicada.Lemmas.TermWait
/-!
# C07 — the terminal belongs to the foreground job while it runs, else to the shell

Model: `Model/Term.lean`, a step system in which the parent's steps of `run_pipeline` (fork, its `setpgid`,
`give_terminal_to`, `insert_job`), each child's own `setpgid`, the kernel's events (exit, a signal to one process,
Ctrl-C / Ctrl-Z to the terminal's foreground group), `wait_fg_job` taking one status change at a time, the
hand-back of the terminal and the prompt-time poll are separate actions; `Reachable` therefore quantifies over
every interleaving of them.  Reference: `Spec/C07.lean` (clauses over states; a world of pipelines for sessions).

Proved for every reachable state (for `cfg` where the parent's `setpgid` matters, else for every configuration):
* `C07_prompt_owns`  — at the prompt the terminal's foreground group is the shell's;
* `C07_owner`        — at any time it is the shell's or that of the job the shell's control is running in the foreground;
* `C07_fg_owns`      — while the shell waits for a foreground job (launched or resumed by `fg`) that job's group owns the terminal;
* `C07_bg_never_owns`— no other job of the table ever does;
* `C07_one_group`    — every stage of every pipeline is in the group led by its first stage from the parent's `setpgid` on
                       (without that call it fails: `C07_before_fix_race`);
* `C07_report_once`  — no job incarnation is announced as finished twice, and an announced one is absent from the table;
* `C07_partial`      — the five clauses above together: `StateClauses` without `WaitComplete`;
* `C07_wait_complete_partial` — if a `waitGet` ends the wait for a single process, that process is not running (not the
  clause `WaitComplete` itself, which speaks of the `.handback` state and of the processes with `first = gid`);
* `C07_signal_whole`, `C07_ctrlZ_stops_pipeline` — a signal to the job's group (Ctrl-Z, Ctrl-C, the SIGCONT of `fg` / `bg`)
  reaches every member of the pipeline.
`C07_full` (all six clauses and `SessionHolds` for every session) is stated to be refuted: `C07_full_false`.  `Spec.guard` is
the set of sessions on which the driver compares model and reference world; no theorem has it as a hypothesis.
Findings (model = implementation ≠ reference; classes in known_findings.json): the foreground wait counts one member twice and returns while another still runs
(`C07_finding_wait_counts_twice`, also at the state level `C07_wait_returns_early`), the Running / Stopped column of
`jobs` is not re-evaluated (`C07_finding_status_not_reevaluated`), a stop and a continue parked together are applied in
the wrong order (`C07_finding_parked_pair`), a continue of a foreground member is dropped (`C07_finding_fg_continue_dropped`).
-/
namespace Cicada.C07
open Cicada.Jobs Cicada.Term

/-- the setting of the property: an interactive session; the parent calls `setpgid` for every child (src/core.rs) -/
def cfg : Cfg := { parentSetpgid := true, interactive := true }

/-- only the children call `setpgid` (mitnk/cicada before commit 59a1f03) -/
def cfgBefore : Cfg := { parentSetpgid := false, interactive := true }

def StateClauses (s : State) : Prop := PromptOwns s ∧ FgOwns s ∧ BgNeverOwns s ∧ OneGroup s ∧ ReportedOnce s ∧ WaitComplete s

/-- **the property at full strength**: the clauses in every reachable state of an interactive session, for every
interleaving of the shell's steps, the children's steps and the kernel's events; and every session of the property's
alphabet shows what the reference world prescribes (prompt, owner of the terminal, state and group of every
process, the lines of `jobs`, each finished background job announced exactly once) -/
def C07_full : Prop :=
  (∀ s, Reachable cfg s → StateClauses s) ∧ (∀ acts, SessionHolds cfg acts = true)

theorem C07_prompt_owns {c : Cfg} {s : State} (h : Reachable c s) : PromptOwns s := by
  intro hm
  have := (ctlInv_reachable h).1
  simpa [fgGid, hm] using this

theorem C07_owner {c : Cfg} {s : State} (h : Reachable c s) : s.tfg = s.shell ∨ fgGid s.mode = some s.tfg := by
  have := (ctlInv_reachable h).1
  cases hf : fgGid s.mode with
  | none => left; simpa [hf] using this
  | some g => right; simp [hf] at this; rw [this]

theorem C07_fg_owns {s : State} (h : Reachable cfg s) : FgOwns s := by
  intro w hm
  have hc := (ctlInv_reachable h).1
  have hp := procInv_reachable (c := cfg) rfl h
  rw [hm] at hc
  cases ho : w.origin with
  | fgBuiltin => simpa [fgGid, ho] using hc
  | launch tg =>
    have : tg = true := hp.waitGiven w tg hm ho rfl
    subst this
    simpa [fgGid, ho] using hc

theorem C07_bg_never_owns {c : Cfg} {s : State} (h : Reachable c s) : BgNeverOwns s := by
  intro j hj hne
  have hc := (ctlInv_reachable h).1
  have hg := (gidInv_reachable h).1 j hj
  cases hf : fgGid s.mode with
  | none => rw [hf] at hc; simp at hc; rw [hc]; exact fun e => hg e.symm
  | some g =>
    rw [hf] at hc hne
    simp at hc
    rw [hc]
    intro e; exact hne (by rw [e])

theorem C07_one_group {s : State} (h : Reachable cfg s) : OneGroup s := by
  intro p hp hw
  rcases (procInv_reachable (c := cfg) rfl h).grouped p hp with hg | ⟨l, hl, hph⟩
  · exact hg
  · simp [inSetpgidWindow, hl, hph] at hw

theorem C07_report_once {c : Cfg} {s : State} (h : Reachable c s) : ReportedOnce s :=
  ⟨(repInv_reachable h).ok.once, (repInv_reachable h).ok.absent⟩

/-- what is proved of the state clauses: all but `WaitComplete` -/
theorem C07_partial {s : State} (h : Reachable cfg s) : PromptOwns s ∧ FgOwns s ∧ BgNeverOwns s ∧ OneGroup s ∧ ReportedOnce s :=
  ⟨C07_prompt_owns h, C07_fg_owns h, C07_bg_never_owns h, C07_one_group h, C07_report_once h⟩

/-- outside a launch, a signal sent to a job's process group reaches every process of that pipeline -/
theorem C07_signal_whole {s : State} (h : Reachable cfg s) (hm : ∀ l, s.mode ≠ .launching l) (g : Pid) (sg : Sig) :
    ∀ p ∈ s.procs, p.first = g → sigProc p sg ∈ sigGroup s.procs g sg := by
  intro p hp hf
  have hg : p.pgid = p.first := by
    apply C07_one_group h p hp
    unfold inSetpgidWindow
    split
    · rename_i l hl; exact absurd hl (hm l)
    · rfl
  rw [sigGroup_eq, List.mem_map]
  exact ⟨p, hp, by simp [hg, hf]⟩

/-- Ctrl-Z while the shell waits for a job stops every running process of that pipeline -/
theorem C07_ctrlZ_stops_pipeline {s s' : State} (h : Reachable cfg s) (w : Wait) (hm : s.mode = .waiting w)
    (hs : Term.step cfg s .ctrlZ = some s') : ∀ p ∈ s.procs, p.first = w.gid → p.st = .running → ∃ p' ∈ s'.procs, p'.pid = p.pid ∧ p'.st = .stopped := by
  intro p hp hf hr
  have ht : s.tfg = w.gid := C07_fg_owns h w hm
  simp only [Term.step, Option.some.injEq] at hs
  subst hs
  refine ⟨sigProc p .tstp, ?_, ?_, ?_⟩
  · rw [ht]; exact C07_signal_whole h (by intro l hl; rw [hm] at hl; simp at hl) w.gid .tstp p hp hf
  · simp [sigProc, hr]
  · simp [sigProc, hr]

/-- the shell waits for a single process (every one-stage foreground command, every `fg` of a one-process job) and a
`waitGet` ends the wait: that process is not running.  For longer pipelines this fails: `C07_wait_returns_early`. -/
theorem C07_wait_complete_partial {s s' : State} (h : Reachable cfg s) (w : Wait) (hm : s.mode = .waiting w)
    (hguard : w.pids.length = 1) (pid : Pid) (hs : Term.step cfg s (.waitGet pid) = some s')
    (hret : ∀ w', s'.mode ≠ .waiting w') : ∀ q ∈ s'.procs, q.pid ∈ w.pids → q.st ≠ .running := by
  have hw := waitInv_reachable h
  have hu := (procInv_reachable (c := cfg) rfl h).uniq
  have h0 : w.waited = 0 := by have := hw.counter w hm; omega
  cases step_sound hs with
  | waitGet w' p e hm' hfp he =>
    rw [hm] at hm'; cases hm'
    obtain ⟨hpm, hpp⟩ := mem_of_findProc hfp
    obtain ⟨hepid, hest⟩ := hw.notes p hpm e he
    -- the wait is over: the loop did not go round and the counter reached 1
    have hleft : ((waitEv s.sh w e).2.2.2 = false ∧ (waitEv s.sh w e).2.2.1 ≥ w.pids.length) := by
      by_cases hc : (!(waitEv s.sh w e).2.2.2 && decide ((waitEv s.sh w e).2.2.1 ≥ w.pids.length)) = true
      · simpa using hc
      · exfalso
        refine hret { w with waited := (waitEv s.sh w e).2.2.1 } ?_
        simp only
        rw [if_neg hc]
    -- so the notification was a stop or an end of a process the shell waits for
    have hfg : w.pids.contains e.pid = true ∧ ∀ x, e ≠ .continued x := by
      refine waitEv_counted (s := s.sh) (w := w) ?_
      have := hleft.2
      omega
    intro q hq hqw
    simp only at hq
    rw [updProc_eq, List.mem_map] at hq
    obtain ⟨q0, hq0, rfl⟩ := hq
    -- the one process waited for is the one whose notification was taken
    have hone : ∀ a ∈ w.pids, ∀ b ∈ w.pids, a = b := by
      intro a ha b hb
      match hwp : w.pids, hguard with
      | [x], _ => rw [hwp] at ha hb; simp at ha hb; rw [ha, hb]
    have hepid' : e.pid = pid := by rw [hepid, hpp]
    have hpidw : pid ∈ w.pids := by
      have := hfg.1; rw [hepid'] at this; simpa using this
    by_cases hqp : q0.pid = pid
    · have : q0 = p := hu q0 hq0 p hpm (by rw [hqp, hpp])
      subst this
      simp only [hqp, ↓reduceIte, consume]
      cases e with
      | continued x => exact absurd rfl (hfg.2 x)
      | exited x c => simp only at hest; simp [hest]
      | killed x c => simp only at hest; simp [hest]
      | stopped x c => simp only at hest; simp [hest]
    · exfalso
      simp only [hqp, ↓reduceIte] at hqw
      exact hqp (hone _ hqw _ hpidw)

theorem reachable_run {c : Cfg} {s : State} (h : Reachable c s) : ∀ {acts : List Act} {s' : State}, run c s acts = some s' → Reachable c s' := by
  intro acts
  induction acts generalizing s with
  | nil => intro s' hs; simp only [run, Option.some.injEq] at hs; subst hs; exact h
  | cons a rest ih =>
    intro s' hs
    simp only [run] at hs
    split at hs
    · rename_i s1 h1; exact ih (Reachable.step a h h1) hs
    · simp at hs

/-- two stages; the second child reaches its `setpgid(0, 11)` before the first has made itself leader of group 11 -/
def raceActs : List Act :=
  [.launch false ["a", "b"], .fork 11, .give, .insert, .fork 12, .insert, .csetpgid 12, .csetpgid 11, .launched, .ctrlZ]

def raceState : State := (run cfgBefore (init 9) raceActs).get (by decide)

/-- without the parent's `setpgid`: a reachable state in which the second stage sits in the shell's own process group; the
Ctrl-Z that stops the first stage leaves it running -/
theorem C07_before_fix_race : Reachable cfgBefore raceState ∧ ¬ OneGroup raceState ∧
    (∃ p ∈ raceState.procs, p.pid = 12 ∧ p.st = .running ∧ p.pgid = 9) ∧ (∃ p ∈ raceState.procs, p.pid = 11 ∧ p.st = .stopped) := by
  refine ⟨reachable_run (acts := raceActs) (Reachable.init 9 (by decide)) (by simp [raceState]), by decide +kernel, by decide +kernel, by decide +kernel⟩

/-- a foreground pipeline of two; the first member is stopped from outside, then killed: counted twice -/
def earlyActs : List Act :=
  [.launch false ["a", "b"], .fork 11, .psetpgid, .give, .insert, .fork 12, .psetpgid, .insert, .launched,
   .signal 11 .stop, .waitGet 11, .signal 11 .kill, .waitGet 11]

def earlyState : State := (run cfg (init 9) earlyActs).get (by decide)

/-- KF-C07-wait-counts-member-twice at the state level: `wait_fg_job` has returned, the second member still runs -/
theorem C07_wait_returns_early : Reachable cfg earlyState ∧ ¬ WaitComplete earlyState := by
  refine ⟨reachable_run (acts := earlyActs) (Reachable.init 9 (by decide)) (by simp [earlyState]), by decide +kernel⟩

def wCountedTwice : List SAct := [.launch false [.sleep, .sleep], .stop 1, .kill 1]
/-- KF-C07-wait-counts-member-twice: the prompt returns while the second stage still runs in the foreground group -/
theorem C07_finding_wait_counts_twice :
    SessionHolds cfg wCountedTwice = false ∧ classOf (flagsOf wCountedTwice) = "wait-counts-member-twice" := by decide +kernel

def wStatus : List SAct := [.launch false [.sleep, .sleep], .stop 1, .kill 2, .jobs]
/-- KF-C07-status-not-reevaluated: the only live process is stopped, `jobs` says Running -/
theorem C07_finding_status_not_reevaluated :
    SessionHolds cfg wStatus = false ∧ classOf (flagsOf wStatus) = "member-signalled-alone" := by decide +kernel

def wParked : List SAct := [.launch true [.sleep], .launch false [.sleep], .stop 1, .cont 1, .ctrlC, .stop 1, .jobs, .jobs]
/-- KF-C07-parked-pair: stop and continue parked during a foreground wait are applied stop first, the continue at the
next poll: after a later real stop the job is shown Running while its process is stopped -/
theorem C07_finding_parked_pair :
    SessionHolds cfg wParked = false ∧ classOf (flagsOf wParked) = "stop-cont-parked-together" := by decide +kernel

def wFgCont : List SAct := [.launch false [.sleep, .sleep], .stop 1, .cont 1, .stop 2]
/-- KF-C07-fg-continue-dropped: the first member runs again, the table still has it as stopped: stopping the second
member ends the wait and the job is filed as Stopped -/
theorem C07_finding_fg_continue_dropped :
    SessionHolds cfg wFgCont = false ∧ classOf (flagsOf wFgCont) = "foreground-member-continued" := by decide +kernel

theorem C07_full_false : ¬ C07_full := by
  intro h
  have := h.2 wCountedTwice
  rw [C07_finding_wait_counts_twice.1] at this
  exact absurd this (by decide)

/-- a session inside `guard` (a pipeline of three, Ctrl-Z, `bg`, `fg`, Ctrl-C, failing and missing commands, a background job
killed from outside) on which the model shows what the reference world prescribes -/
example : guard [.launch false [.sleep, .exit 1, .sleep], .ctrlZ, .jobs, .bg none, .fg (some 1), .ctrlC, .launch false [.notfound],
      .launch true [.sleep, .sleep], .kill 5, .kill 6, .empty, .jobs] = true ∧
    SessionHolds cfg [.launch false [.sleep, .exit 1, .sleep], .ctrlZ, .jobs, .bg none, .fg (some 1), .ctrlC, .launch false [.notfound],
      .launch true [.sleep, .sleep], .kill 5, .kill 6, .empty, .jobs] = true := by decide +kernel

end Cicada.C07
