import Cicada.Thm.C13more
import Cicada.Lemmas.Lit
/-!
# C13 — the same word delivered twice on one line keeps each occurrence's own quoting

`C13_deliveries` / `C13_line` (`Thm/C13more.lean`) quantify over an arbitrary LIST of deliveries; nothing in
their hypotheses asks the names to be distinct, so a repeated name is an instance.  This file makes the
instance explicit (an expansion cache keyed by the word's text would break it: in `prog $Z "$Z"` the second
occurrence would inherit the first one's quote tag): the variable `N` delivered twice, in any of the
spellings `$N`, `${N}`, `"$N"`, `"${N}"`, gives argv `[prog, v, v]`.

Guards (all decidable, input-only): `prog` is a plain word that is no alias and not `xargs`; `N` is an
identifier; the value `v` does not itself spell a command substitution (`valueOk`, the guard of the general
theorem for quoted and unquoted deliveries alike: every character is allowed, operators included, but the value as a
whole must not match the backquote / `$(…)` patterns, which the shell re-expands: the finding of `Thm/C13.lean`); an
unquoted occurrence needs `inertValue v` in addition.
-/
namespace Cicada.C13
open Cicada

/-- the variable `N` spelled `$N` / `${N}` (`braced`), double-quoted or not -/
def occ (braced dq : Bool) (N : Str) : Delivery := ⟨if braced then .braced else .var, N, dq⟩

theorem occ_value (se : SubstEnv) (b q : Bool) (N v : Str) (hv : se.env.value N = some v) :
    (occ b q N).value se = v := by
  cases b <;> simp [occ, Delivery.value, hv]

theorem occ_ok (se : SubstEnv) (b q : Bool) (N v : Str) (hN : C10.isIdent N = true)
    (hv : se.env.value N = some v) (hq : (q || inertValue v) = true) : delivOk se (occ b q N) = true := by
  have e := occ_value se b q N v hv
  have hn : (occ b q N).name = N := rfl
  have hdq : (occ b q N).dq = q := rfl
  simp only [delivOk, e, hn, hdq, hN, Bool.or_eq_true, Bool.and_eq_true, decide_eq_true_eq]
  left
  refine ⟨⟨?_, trivial⟩, ?_⟩
  · cases b <;> simp [occ]
  · cases q
    · right; simpa using hq
    · left; rfl

theorem twice_ok (se : SubstEnv) (N v : Str) (b₁ q₁ b₂ q₂ : Bool)
    (hN : C10.isIdent N = true) (hval : se.env.value N = some v) (hv : valueOk v = true)
    (hq : ((q₁ && q₂) || inertValue v) = true) :
    delivsOk se [occ b₁ q₁ N, occ b₂ q₂ N] = true ∧
      ∀ d ∈ [occ b₁ q₁ N, occ b₂ q₂ N], valueOk (d.value se) = true := by
  have h1 : (q₁ || inertValue v) = true := by cases q₁ <;> simp_all
  have h2 : (q₂ || inertValue v) = true := by cases q₂ <;> cases q₁ <;> simp_all
  refine ⟨by simp [delivsOk, occ_ok se b₁ q₁ N v hN hval h1, occ_ok se b₂ q₂ N v hN hval h2], ?_⟩
  intro d hd'
  simp only [List.mem_cons, List.not_mem_nil, or_false] at hd'
  rcases hd' with rfl | rfl <;> simpa [occ_value se _ _ N v hval] using hv

/-- **the general instance**: `N` delivered twice, each occurrence in its own spelling (`b₁ b₂`: braced or not,
`q₁ q₂`: double-quoted or not; an unquoted occurrence needs an inert value).  The plan is the plain one with
argv `[p, v, v]`. -/
theorem C13_same_word_twice (se : SubstEnv) (p N v : Str) (b₁ q₁ b₂ q₂ : Bool)
    (hp : C01.plainWord p = true) (ha : lookup se.env.aliases p = none) (hx : p ≠ "xargs".toList)
    (hN : C10.isIdent N = true) (hval : se.env.value N = some v) (hv : valueOk v = true)
    (hq : ((q₁ && q₂) || inertValue v) = true) :
    ∃ plan, planOf se (planFuel (renderCmd p [occ b₁ q₁ N, occ b₂ q₂ N])) (renderCmd p [occ b₁ q₁ N, occ b₂ q₂ N])
        = .ok (.ok plan) ∧ shapeOf plan = plainShape ∧
      plan.commands.map (fun c => c.tokens.map (·.2)) = [[p, v, v]] := by
  obtain ⟨hd, hvs⟩ := twice_ok se N v b₁ q₁ b₂ q₂ hN hval hv hq
  obtain ⟨plan, e1, e2, e3⟩ := C13_line_planFuel se p [occ b₁ q₁ N, occ b₂ q₂ N] hp ha hx hd hvs
  refine ⟨plan, e1, e2, ?_⟩
  simpa [occ_value se _ _ N v hval] using e3

theorem text_dq_dq (p N : Str) :
    renderCmd p [occ false true N, occ false true N] = p ++ " \"$".toList ++ N ++ "\" \"$".toList ++ N ++ "\"".toList := by
  simp [renderCmd, occ, Delivery.render]
theorem text_dq_braced (p N : Str) :
    renderCmd p [occ false true N, occ true true N] = p ++ " \"$".toList ++ N ++ "\" \"${".toList ++ N ++ "}\"".toList := by
  simp [renderCmd, occ, Delivery.render]
theorem text_un_dq (p N : Str) :
    renderCmd p [occ false false N, occ false true N] = p ++ " $".toList ++ N ++ " \"$".toList ++ N ++ "\"".toList := by
  simp [renderCmd, occ, Delivery.render]
theorem text_dq_un (p N : Str) :
    renderCmd p [occ false true N, occ false false N] = p ++ " \"$".toList ++ N ++ "\" $".toList ++ N := by
  simp [renderCmd, occ, Delivery.render]

/-- the statement about one line: the driver's plan is plain and its argv is `[p, v, v]` -/
def TwicePlain (se : SubstEnv) (line p v : Str) : Prop :=
  ∃ plan, planOf se (planFuel line) line = .ok (.ok plan) ∧ shapeOf plan = plainShape ∧
    plan.commands.map (fun c => c.tokens.map (·.2)) = [[p, v, v]]

/-- `prog "$N" "$N"` and `prog "$N" "${N}"`: one plain foreground stage, argv `[prog, v, v]`, whatever
characters `v` holds (guard `valueOk`: `v` as a whole is not itself a command substitution). -/
theorem C13_same_word_twice_dq (se : SubstEnv) (p N v : Str)
    (hp : C01.plainWord p = true) (ha : lookup se.env.aliases p = none) (hx : p ≠ "xargs".toList)
    (hN : C10.isIdent N = true) (hval : se.env.value N = some v) (hv : valueOk v = true) :
    TwicePlain se (p ++ " \"$".toList ++ N ++ "\" \"$".toList ++ N ++ "\"".toList) p v ∧
    TwicePlain se (p ++ " \"$".toList ++ N ++ "\" \"${".toList ++ N ++ "}\"".toList) p v := by
  constructor
  · rw [← text_dq_dq]; exact C13_same_word_twice se p N v false true false true hp ha hx hN hval hv (by simp)
  · rw [← text_dq_braced]; exact C13_same_word_twice se p N v false true true true hp ha hx hN hval hv (by simp)

/-- `prog $N "$N"` and `prog "$N" $N` with an inert value: argv `[prog, v, v]` — the quoted occurrence
keeps its quoting, the unquoted one its own. -/
theorem C13_same_word_unquoted_then_quoted (se : SubstEnv) (p N v : Str)
    (hp : C01.plainWord p = true) (ha : lookup se.env.aliases p = none) (hx : p ≠ "xargs".toList)
    (hN : C10.isIdent N = true) (hval : se.env.value N = some v) (hv : valueOk v = true)
    (hi : inertValue v = true) :
    TwicePlain se (p ++ " $".toList ++ N ++ " \"$".toList ++ N ++ "\"".toList) p v ∧
    TwicePlain se (p ++ " \"$".toList ++ N ++ "\" $".toList ++ N) p v := by
  constructor
  · rw [← text_un_dq]; exact C13_same_word_twice se p N v false false false true hp ha hx hN hval hv (by simp [hi])
  · rw [← text_dq_un]; exact C13_same_word_twice se p N v false true false false hp ha hx hN hval hv (by simp [hi])

/-- the tokens keep each occurrence's own quote tag (the expansion level, from `C13_deliveries`; its fuel bound
`fuelNeed + 9` for the two occurrences is `2 + 2 * N.length + 9`) -/
theorem C13_same_word_tags (se : SubstEnv) (p N v : Str) (b₁ q₁ b₂ q₂ : Bool) (f : Nat)
    (hp : C01.plainWord p = true) (ha : lookup se.env.aliases p = none) (hx : p ≠ "xargs".toList)
    (hN : C10.isIdent N = true) (hval : se.env.value N = some v) (hv : valueOk v = true)
    (hq : ((q₁ && q₂) || inertValue v) = true) (hf : 2 * N.length + 11 < f) :
    doExpansion se f [([], p), tokInG (occ b₁ q₁ N), tokInG (occ b₂ q₂ N)] =
      .ok [([], p), (if q₁ then ['"'] else [], v), (if q₂ then ['"'] else [], v)] := by
  obtain ⟨hd, hvs⟩ := twice_ok se N v b₁ q₁ b₂ q₂ hN hval hv hq
  have hfn : fuelNeed [occ b₁ q₁ N, occ b₂ q₂ N] + 9 < f := by
    simp [fuelNeed, occ]; omega
  have := (C13_deliveries se p [occ b₁ q₁ N, occ b₂ q₂ N] f hp ha hx hd hvs hfn).1
  simp only [List.map_cons, List.map_nil, tokOutG, occ_value se _ _ N v hval] at this
  exact this

def twEnv : SubstEnv := { env := { vars := [("Z".toList, "a>b".toList), ("W".toList, "two words; a|b".toList)] }, cmdOut := fun _ => [] }

/-- the guards of `C13_same_word_twice_dq` with `v = "a>b"` -/
example : C01.plainWord "prog".toList = true ∧ lookup twEnv.env.aliases "prog".toList = none ∧ "prog".toList ≠ "xargs".toList ∧
    C10.isIdent "Z".toList = true ∧ twEnv.env.value "Z".toList = some "a>b".toList ∧ valueOk "a>b".toList = true ∧
    inertValue "a>b".toList = false ∧
    "prog".toList ++ " \"$".toList ++ "Z".toList ++ "\" \"$".toList ++ "Z".toList ++ "\"".toList = "prog \"$Z\" \"$Z\"".toList := by
  lit_lists
  decide +kernel

/-- the guards of `C13_same_word_unquoted_then_quoted` with the inert `v = "two words; a|b"` -/
example : C10.isIdent "W".toList = true ∧ twEnv.env.value "W".toList = some "two words; a|b".toList ∧
    valueOk "two words; a|b".toList = true ∧ inertValue "two words; a|b".toList = true ∧
    "prog".toList ++ " $".toList ++ "W".toList ++ " \"$".toList ++ "W".toList ++ "\"".toList = "prog $W \"$W\"".toList := by
  lit_lists
  decide +kernel

example : (planOf twEnv 30 "prog \"$Z\" \"${Z}\"".toList).map
    (fun o => o.toOption.map (fun pl => pl.commands.map (fun c => c.tokens))) =
    .ok (some [[([], "prog".toList), (['"'], "a>b".toList), (['"'], "a>b".toList)]]) := by
  lit_lists
  decide +kernel

example : (planOf twEnv 30 "prog $W \"$W\"".toList).map
    (fun o => o.toOption.map (fun pl => pl.commands.map (fun c => c.tokens))) =
    .ok (some [[([], "prog".toList), ([], "two words; a|b".toList), (['"'], "two words; a|b".toList)]]) := by
  lit_lists
  decide +kernel

end Cicada.C13

#print axioms Cicada.C13.C13_same_word_twice
#print axioms Cicada.C13.C13_same_word_twice_dq
#print axioms Cicada.C13.C13_same_word_unquoted_then_quoted
#print axioms Cicada.C13.C13_same_word_tags
