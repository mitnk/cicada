import Cicada.Lemmas.Lit
import Cicada.Model.Prompt
/-!
# C16 at the prompt: `!!` expansion is ONE left-to-right pass — inserted text is never rescanned

The model `extendBangbang` (Model/Prompt.lean, of `tools::extend_bangbang`, tools.rs:85-122) does NOT replace on the whole
line: as the Rust does, it re-builds the line from the tokens of `parseLine`, replacing inside each token that holds `!!`
and is not single-quoted, then `trim_end`s.  `replaceAllBang` and `rebuildBang` spell the model's own recursion
(`replaceBangs`) and rebuild once more, so the theorems compare the model with a copy of itself: they establish that the
model's replacement IS the structural non-overlapping replace-all, not an independent specification of it.  The whole-line
equation `extendBangbang prev line = replaceAllBang prev line` is false for the model and for the Rust (see the `example`s).
-/
namespace Cicada.C16
open Cicada

/-- **the prompt is `-c` for every line without `!!`**: `extend_bangbang` is the only rewriting the interactive entry
point applies -/
theorem C16_prompt_same (prev line : Str) (h : hasInfix ['!', '!'] line = false) : extendBangbang prev line = line := by
  simp [extendBangbang, h]

/-- … and so is the first line of a session, `!!` or not -/
theorem C16_prompt_first (line : Str) : extendBangbang [] line = line := by
  unfold extendBangbang
  split
  · rfl
  · simp

/-- non-vacuity: a line with a single `!` (no `!!`) and awkward quoting is within the hypothesis -/
example : hasInfix ['!', '!'] "argv \"say \\\"hi\\\"\" done!".toList = false := by
  lit_lists
  decide +kernel

end Cicada.C16

namespace Cicada

/-- the non-overlapping left-to-right replace-all of `!!` by `prev`: the inserted `prev` is emitted, never rescanned -/
def replaceAllBang (prev : Str) : Str → Str
  | '!' :: '!' :: rest => prev ++ replaceAllBang prev rest
  | c :: rest => c :: replaceAllBang prev rest
  | [] => []

theorem replaceAllBang_bang (prev rest : Str) :
    replaceAllBang prev ('!' :: '!' :: rest) = prev ++ replaceAllBang prev rest := by
  simp [replaceAllBang]

theorem replaceBangs_eq_replaceAllBang (prev s : Str) : replaceBangs prev s = replaceAllBang prev s := by
  fun_induction replaceBangs prev s with
  | case1 rest ih => simp [replaceAllBang, ih]
  | case2 c rest h ih =>
    rw [replaceAllBang.eq_2 _ _ _ h, ih]
  | case3 => simp [replaceAllBang]

def rebuildBang (prev line : Str) : Str :=
  trimEnd ((parseLine line).flatMap (fun (sep, tok) =>
    sep ++ (if hasInfix ['!', '!'] tok ∧ sep ≠ ['\''] then replaceAllBang prev tok else tok) ++ sep ++ [' ']))

/-- with the model's own guards the result is the token-wise rebuild with `replaceAllBang`: one pass, total for every `prev`;
in the two guarded-out cases the line is unchanged -/
theorem C16_bangbang_single_pass (prev line : Str) :
    (hasInfix ['!', '!'] line = true → prev ≠ [] → extendBangbang prev line = rebuildBang prev line) ∧
    (hasInfix ['!', '!'] line = false → extendBangbang prev line = line) ∧
    (prev = [] → extendBangbang prev line = line) := by
  refine ⟨?_, ?_, ?_⟩
  · intro h hp
    have hp' : prev.isEmpty = false := by cases prev <;> simp_all
    unfold extendBangbang rebuildBang
    simp only [h, hp', Bool.not_true, Bool.false_eq_true, if_false]
    congr 2
    funext p
    rw [replaceBangs_eq_replaceAllBang]
  · exact C16.C16_prompt_same prev line
  · intro h; subst h; exact C16.C16_prompt_first line

/-- a previous command that itself is `!!`: the result is defined, and is the line itself -/
example : extendBangbang "!!".toList "echo !!".toList = "echo !!".toList := by
  lit_lists
  decide +kernel
example : extendBangbang "ls -l".toList "echo !! x!!y".toList = "echo ls -l xls -ly".toList := by
  lit_lists
  decide +kernel
example : hasInfix ['!', '!'] "echo !!".toList = true ∧ "!!".toList ≠ [] := by
  lit_lists
  decide +kernel
-- the whole-line equation fails: blanks are normalised, single-quoted tokens are left alone
example : extendBangbang "ls".toList "echo  !!".toList ≠ replaceAllBang "ls".toList "echo  !!".toList := by
  lit_lists
  decide +kernel
example : extendBangbang "ls".toList "echo '!!' !!".toList = "echo '!!' ls".toList := by
  lit_lists
  decide +kernel

/-- a bound on `replaceAllBang` alone; no lemma carries it over to `extendBangbang` -/
theorem C16_bangbang_length (prev line : Str) :
    (replaceAllBang prev line).length ≤ line.length + line.length * prev.length := by
  fun_induction replaceAllBang prev line with
  | case1 rest ih =>
    have e : (rest.length + 1 + 1) * prev.length = rest.length * prev.length + 2 * prev.length := by
      rw [Nat.add_assoc, Nat.add_mul]
    simp only [List.length_append, List.length_cons, e]
    omega
  | case2 c rest h ih =>
    have e : (rest.length + 1) * prev.length = rest.length * prev.length + prev.length := by
      rw [Nat.add_mul, Nat.one_mul]
    simp only [List.length_cons, e]
    omega
  | case3 => simp

example : (replaceAllBang "!!".toList "a!!!!".toList).length = 5 := by decide +kernel

#print axioms replaceBangs_eq_replaceAllBang
#print axioms C16_bangbang_single_pass
#print axioms C16_bangbang_length

end Cicada
