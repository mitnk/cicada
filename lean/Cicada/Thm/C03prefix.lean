import Cicada.Thm.C03more
/-!
# C03 — a successful first segment followed by `;` or `&&` changes nothing for the rest of the list

The correspondence check also runs every list program behind `set -e ;` (a builtin that succeeds).
The claim proved here: such a prefix is just one more successful segment.  Evaluating
`c0 ; c1 REST` where `c0` returns 0 runs `c0` and then EXACTLY what evaluating `c1 REST` runs from
the state `c0` left: same trace suffix, same final status, same final state.  Exit-on-error acts
between the lines of a script, never inside a line (the state `σ` is opaque here, so whatever flag
`c0` sets in it is simply carried along by the oracle).
-/
namespace Cicada.C03
open Cicada

def Res.pre {σ} (pre : List (Str × Int)) (r : Res σ) : Res σ :=
  { sh := r.sh, status := r.status, trace := pre ++ r.trace }

/-- the reference semantics never looks at the trace: a prefix on it is carried through unchanged -/
theorem specRest_trace_prefix {σ} (run : σ → Str → σ × Int) (pre : List (Str × Int)) (l : List (ListOp × Str)) :
    ∀ r : Res σ, specRest run (r.pre pre) l = (specRest run r l).pre pre := by
  induction l with
  | nil => intro r; rfl
  | cons x xs ih =>
    intro r
    obtain ⟨o, seg⟩ := x
    simp only [specRest_cons]
    have hs : (r.pre pre).status = r.status := rfl
    have hh : (r.pre pre).sh = r.sh := rfl
    rw [hs, hh]
    split
    · rw [← ih]
      simp [Res.pre, List.append_assoc]
    · exact ih r

theorem guard_tail (c0 c1 : Str) (o : ListOp) (rest : List (ListOp × Str))
    (hg : guard { first := c0, rest := (o, c1) :: rest } = true) :
    guard { first := c1, rest := rest } = true := by
  simp only [guard, List.all_cons, Bool.and_eq_true] at hg ⊢
  exact ⟨hg.2.1, hg.2.2⟩

theorem specList_success_prefix {σ : Type} (run : σ → Str → σ × Int) (sh : σ) (c0 c1 : Str) (o : ListOp)
    (rest : List (ListOp × Str)) (ho : runsAfter o 0 = true) (h0 : (run sh (trim c0)).2 = 0) :
    specList run sh { first := c0, rest := (o, c1) :: rest } =
      (specList run (run sh (trim c0)).1 { first := c1, rest := rest }).pre [(trim c0, 0)] := by
  simp only [specList, specRest_cons, h0, ho, ↓reduceIte]
  rw [← specRest_trace_prefix]
  rfl

/-- **`c0 ; c1 REST` with `c0` successful** (reference semantics; every oracle, every state, every text):
the result is that of `c1 REST` evaluated from the state `c0` left, with `(c0, 0)` in front of the trace. -/
theorem C03_success_prefix {σ : Type} (run : σ → Str → σ × Int) (sh : σ) (c0 c1 : Str) (rest : List (ListOp × Str))
    (h0 : (run sh (trim c0)).2 = 0) :
    specList run sh { first := c0, rest := (.semi, c1) :: rest } =
      (specList run (run sh (trim c0)).1 { first := c1, rest := rest }).pre [(trim c0, 0)] :=
  specList_success_prefix run sh c0 c1 .semi rest rfl h0

/-- the same behind `&&`: status 0 lets the next segment run -/
theorem C03_success_prefix_and {σ : Type} (run : σ → Str → σ × Int) (sh : σ) (c0 c1 : Str) (rest : List (ListOp × Str))
    (h0 : (run sh (trim c0)).2 = 0) :
    specList run sh { first := c0, rest := (.and, c1) :: rest } =
      (specList run (run sh (trim c0)).1 { first := c1, rest := rest }).pre [(trim c0, 0)] :=
  specList_success_prefix run sh c0 c1 .and rest rfl h0

/-- the three readings of `C03_success_prefix`: trace = `c0` then the trace of `c1 REST`; same status; same state -/
theorem C03_success_prefix_fields {σ : Type} (run : σ → Str → σ × Int) (sh : σ) (c0 c1 : Str) (rest : List (ListOp × Str))
    (h0 : (run sh (trim c0)).2 = 0) :
    (specList run sh { first := c0, rest := (.semi, c1) :: rest }).trace =
        (trim c0, 0) :: (specList run (run sh (trim c0)).1 { first := c1, rest := rest }).trace ∧
    (specList run sh { first := c0, rest := (.semi, c1) :: rest }).status =
        (specList run (run sh (trim c0)).1 { first := c1, rest := rest }).status ∧
    (specList run sh { first := c0, rest := (.semi, c1) :: rest }).sh =
        (specList run (run sh (trim c0)).1 { first := c1, rest := rest }).sh := by
  rw [C03_success_prefix run sh c0 c1 rest h0]
  exact ⟨rfl, rfl, rfl⟩

/-- **the model of `run_command_line`**: on the text `c0;c1 REST` (guard of `C03_partial`), with `c0` successful,
the loop executes `c0` and then exactly what it executes on the text `c1 REST` from the state `c0` left. -/
theorem C03_success_prefix_model {σ : Type} (run : σ → Str → σ × Int) (sh : σ) (c0 c1 : Str) (rest : List (ListOp × Str))
    (hg : guard { first := c0, rest := (.semi, c1) :: rest } = true)
    (h0 : (run sh (trim c0)).2 = 0) :
    ofLoop (runCommandLine run sh (render { first := c0, rest := (.semi, c1) :: rest })) =
      (ofLoop (runCommandLine run (run sh (trim c0)).1 (render { first := c1, rest := rest }))).pre [(trim c0, 0)] := by
  have h1 := C03_partial run sh _ hg
  have h2 := C03_partial run (run sh (trim c0)).1 _ (guard_tail c0 c1 .semi rest hg)
  unfold Holds03 at h1 h2
  rw [h1, h2]
  exact C03_success_prefix run sh c0 c1 rest h0

/-! ### non-vacuity: `set -e ; false && a || b` runs `set -e`, `false`, `b` -/

/-- concrete oracle: `false` fails, everything else (in particular `set -e`) succeeds -/
def pRun : Unit → Str → Unit × Int := fun _ t => ((), if t = "false".toList then 1 else 0)
def pTail : List (ListOp × Str) := [(.and, " a ".toList), (.or, " b".toList)]
def pProg : Prog := { first := "set -e ".toList, rest := (.semi, " false ".toList) :: pTail }

example : (pRun () (trim "set -e ".toList)).2 = 0 := by
  lit_lists
  decide +kernel
example : guard pProg = true := by decide +kernel
example : render pProg = "set -e ; false && a || b".toList := by
  lit_lists
  decide +kernel
example : (specList pRun () pProg).trace = [("set -e".toList, 0), ("false".toList, 1), ("b".toList, 0)] := by decide +kernel
example : (specList pRun () { first := " false ".toList, rest := pTail }).trace =
    [("false".toList, 1), ("b".toList, 0)] := by decide +kernel
example : (specList pRun () pProg).status = 0 := by decide +kernel
/-- the model itself on the rendered text -/
example : (runCommandLine pRun () "set -e ; false && a || b".toList).trace =
    [("set -e".toList, 0), ("false".toList, 1), ("b".toList, 0)] := by
  lit_lists
  decide +kernel

#print axioms C03_success_prefix
#print axioms C03_success_prefix_and
#print axioms C03_success_prefix_fields
#print axioms C03_success_prefix_model

end Cicada.C03
