import Cicada.Model.EnvCd
import Cicada.Lemmas.Lit
/-!
# C09 — variables, exported environment and working directory follow scoping rules

Theorems over `Model/EnvCd.lean`, for every state and every file system `fs`: a failing `cd` changes nothing and `cd -`
returns; a plain assignment reaches children only through a name that is exported already; an assignment prefix is
scoped to its command and can be erased from any history; `read` splits at runs of blanks; a plain assignment, an
`export` and an `unset` of one name in that order leave no stale shell variable.
-/
namespace Cicada.EnvCd
open Cicada

theorem lookup_put_same (l : List (Str × Str)) (k v : Str) : lookup (put l k v) k = some v := by simp [lookup, put]

theorem lookup_nil (k : Str) : lookup ([] : List (Str × Str)) k = none := rfl

theorem lookup_del_same (l : List (Str × Str)) (k : Str) : lookup (del l k) k = none := by
  simp [lookup, del, List.find?_eq_none]

theorem cdTo_failed (fs : Str → FsRes) (s : St) (t : Option Str) (h : (cdTo fs s t).2.1 ≠ 0) : (cdTo fs s t).1 = s := by
  revert h
  fun_cases cdTo fs s t with
  | case4 => exact fun h => absurd rfl h
  | _ => exact fun _ => rfl

theorem cdTo_moves (fs : Str → FsRes) (s : St) (d c : Str) (h : fs d = .dir c) (hc : s.cwd ≠ c) :
    cdTo fs s (some d) = ({ s with cwd := c, prev := s.cwd, exported := put s.exported "PWD".toList c }, 0, []) := by
  simp [cdTo, h, hc]

/-- a `cd` that fails (missing target, non-directory, `cd -` without a previous directory) changes nothing at all -/
theorem C09_cd_failed_noop (fs : Str → FsRes) (s : St) (args : List Str) (h : (step fs s (.cd args)).2.1 ≠ 0) :
    (step fs s (.cd args)).1 = s := by
  match args with
  | _ :: _ :: _ => rfl
  | [] => exact cdTo_failed fs s _ h
  | [a] => exact cdTo_failed fs s _ h

/-- `cd -` returns to the directory in effect before the last change (when that directory still resolves to itself),
and a further `cd -` goes forward again (`hane`: `cd -` reads an empty `previous_dir` as "no previous directory") -/
theorem C09_cd_minus_returns (fs : Str → FsRes) (s : St) (b : Str) (arg : Str) (hab : s.cwd ≠ b)
    (harg : arg ≠ ['-']) (hto : fs (if arg.head? = some '/' then arg else s.cwd ++ '/' :: arg) = .dir b)
    (hback : fs s.cwd = .dir s.cwd) (hane : s.cwd ≠ []) :
    let s1 := (step fs s (.cd [arg])).1
    s1.cwd = b ∧ s1.prev = s.cwd ∧ (step fs s1 (.cd [['-']])).1.cwd = s.cwd ∧ (step fs s1 (.cd [['-']])).1.prev = b := by
  have h1 : step fs s (.cd [arg]) =
      ({ s with cwd := b, prev := s.cwd, exported := put s.exported "PWD".toList b }, 0, []) := by
    simp only [step, cdTarget, harg, ↓reduceIte]
    rw [← apply_ite some, cdTo_moves fs s _ b hto hab]
  simp only [h1]
  refine ⟨trivial, trivial, ?_⟩
  simp only [step, cdTarget, hane, ↓reduceIte]
  rw [cdTo_moves fs _ _ _ hback (show b ≠ s.cwd from Ne.symm hab)]
  exact ⟨rfl, rfl⟩

/-! ### single operations -/

attribute [local simp] step expandsTo childSees lookup_put_same lookup_del_same lookup_nil

/-- `NAME=v` alone: a shell variable, invisible to children, unless NAME is exported already -/
theorem C09_assign_not_exported (fs : Str → FsRes) (s : St) (n v : Str) (h : lookup s.exported n = none) :
    let s' := (step fs s (.assign n v)).1
    expandsTo s' n = v ∧ childSees s' [] n = none := by
  simp [setEnv, h]

/-- … and over a name that is exported already, the exported value changes -/
theorem C09_assign_updates_exported (fs : Str → FsRes) (s : St) (n v w : Str) (h : lookup s.exported n = some w) :
    let s' := (step fs s (.assign n v)).1
    expandsTo s' n = v ∧ childSees s' [] n = some v := by
  simp [setEnv, h]

def isPrefixOp : Op → Bool
  | .prefixed _ _ => true
  | .prefixedFn _ _ => true
  | _ => false

/-- the one fact behind the three theorems on prefixes -/
theorem step_prefixOp (fs : Str → FsRes) (s : St) (o : Op) (h : isPrefixOp o = true) : (step fs s o).1 = s := by
  cases o with
  | prefixed n v => rfl
  | prefixedFn n v => rfl
  | _ => cases h

/-- `NAME=v cmd`: the shell is untouched, the command sees v, also over an exported NAME -/
theorem C09_prefixed_scoped (fs : Str → FsRes) (s : St) (n v : Str) :
    (step fs s (.prefixed n v)).1 = s ∧ childSees s (step fs s (.prefixed n v)).2.2 n = some v :=
  ⟨step_prefixOp fs s _ rfl, by simp [lookup]⟩

/-- an assignment prefix never outlives its line, whether the word after it names a program or a shell function: every later
expansion and every later child sees exactly what it saw before -/
theorem C09_prefix_leaves_no_trace (fs : Str → FsRes) (s : St) (n v m : Str) :
    (step fs s (.prefixedFn n v)).1 = s ∧ (step fs s (.prefixedFn n v)).2.2 = [] ∧
    expandsTo (step fs s (.prefixed n v)).1 m = expandsTo s m ∧ childSees (step fs s (.prefixed n v)).1 [] m = childSees s [] m ∧
    expandsTo (step fs s (.prefixedFn n v)).1 m = expandsTo s m ∧ childSees (step fs s (.prefixedFn n v)).1 [] m = childSees s [] m := by
  rw [step_prefixOp fs s (.prefixed n v) rfl, step_prefixOp fs s (.prefixedFn n v) rfl]
  exact ⟨rfl, rfl, rfl, rfl, rfl, rfl⟩

theorem C09_export_seen_everywhere (fs : Str → FsRes) (s : St) (n v : Str) :
    let s' := (step fs s (.export n v)).1
    expandsTo s' n = v ∧ childSees s' [] n = some v := by
  simp

theorem C09_unset_removes_everywhere (fs : Str → FsRes) (s : St) (n : Str) (h : unsetNameOk n = true) :
    let s' := (step fs s (.unset n)).1
    expandsTo s' n = [] ∧ childSees s' [] n = none := by
  simp [h]

/-! ### `read`: the implementation's split-then-drop-empties is splitting at runs of blanks -/
theorem splitAt_filter_runs (line acc : Str) :
    (splitAtGo [' ', '\t', '\n'] acc line).filter (· ≠ []) = splitRunsGo acc line := by
  fun_induction splitRunsGo acc line with
  | case1 => rfl
  | case2 acc h => simp [splitAtGo, h]
  | case3 c cs hc ih => simpa [splitAtGo, hc] using ih
  | case4 acc c cs hc h ih => simpa [splitAtGo, hc, h] using ih
  | case5 acc c cs hc ih => simpa [splitAtGo, hc] using ih

/-- `read` (split at every blank, drop empty fields) assigns exactly what the reference semantics
(split at runs of blanks, remainder in the last name) assigns, for every state, names and line -/
theorem C09_read_fields (s : St) (extra : List (Str × Str)) (names : List Str) (line : Str) :
    readAssign s extra names line = readAssignSpec s extra names line := by
  unfold readAssign readAssignSpec splitFields
  by_cases h : ifsChars s extra = []
  · simp only [h, ↓reduceIte, splitRuns]; rw [splitAt_filter_runs]
  · simp only [h, ↓reduceIte]

example : expandsTo (readAssign {} [] ["A".toList, "B".toList] "1   2  3".toList) "B".toList = "2 3".toList := by
  lit_lists
  decide +kernel

/-! ### histories: prefixed lines can be erased from ANY history without changing the state it ends in -/

/-- the state a history of operations ends in -/
def runOps (fs : Str → FsRes) (s : St) (ops : List Op) : St := ops.foldl (fun s o => (step fs s o).1) s

theorem runOps_cons (fs : Str → FsRes) (s : St) (o : Op) (ops : List Op) :
    runOps fs s (o :: ops) = runOps fs (step fs s o).1 ops := rfl

/-- for EVERY history and start state: deleting all `NAME=v cmd` / `NAME=v func` lines leaves the final state -- and therefore every later
expansion, every later child's environment and the working directory -- unchanged -/
theorem C09_prefixes_erasable (fs : Str → FsRes) (ops : List Op) : ∀ (s : St),
    runOps fs s ops = runOps fs s (ops.filter fun o => !isPrefixOp o) := by
  induction ops with
  | nil => intro s; rfl
  | cons o rest ih =>
    intro s
    rw [runOps_cons, List.filter_cons]
    cases h : isPrefixOp o
    · rw [Bool.not_false, if_pos rfl, runOps_cons]
      exact ih _
    · rw [step_prefixOp fs s o h, Bool.not_true, if_neg Bool.false_ne_true]
      exact ih s

example : runOps (fun _ => .missing) {} [.assign "A".toList "1".toList, .prefixed "A".toList "2".toList, .prefixedFn "A".toList "3".toList] =
    runOps (fun _ => .missing) {} [.assign "A".toList "1".toList] := by
  rw [C09_prefixes_erasable]; rfl

/-! ### order on one name: a plain assignment, then an export, then `unset` (the stale shell variable must neither win nor survive) -/

/-- after `N=a` and then `export N=b` -- whatever the state before -- `$N` is `b` and a child sees `b`: the exported value shadows the
shell variable the first assignment may have left -/
theorem C09_export_after_assign (fs : Str → FsRes) (s : St) (n a b : Str) :
    let s2 := (step fs (step fs s (.assign n a)).1 (.export n b)).1
    expandsTo s2 n = b ∧ childSees s2 [] n = some b := by
  simp

/-- ... and a following `unset N` removes it everywhere, the stale shell variable included -/
theorem C09_unset_after_export_after_assign (fs : Str → FsRes) (s : St) (n a b : Str) (h : unsetNameOk n = true) :
    let s3 := (step fs (step fs (step fs s (.assign n a)).1 (.export n b)).1 (.unset n)).1
    expandsTo s3 n = [] ∧ childSees s3 [] n = none ∧ lookup s3.vars n = none := by
  simp [h]

end Cicada.EnvCd
