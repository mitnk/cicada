import Cicada.Lemmas.C10
import Cicada.Model.Snapshot
/-!
# C10 — parameter expansion substitutes current values, once, and always terminates

`Holds10 e w` : expanding the rendered word yields exactly the concatenation of the segment values —
every `$NAME`, `${NAME}`, `$?`, `$$` replaced by its current value (nothing if unset), adjacent text
preserved, **the inserted values not scanned again**.  The function is total (no fuel in the statement),
so termination holds by construction for every environment, including values that contain `$`,
`${…}`, or a reference to the variable itself.

`C10_full_holds` is the property at full strength for the expansion of one word.  `Model/Snapshot.lean` holds the rewrite
loop that mitnk/cicada 32052dc had in place of the single pass; two runs of it are computed below.
-/
namespace Cicada.C10
open Cicada

def Holds10 (e : Env) (w : List Seg) : Prop := expandEnvs e (render w) = specExpand e w

def C10_full : Prop := ∀ (e : Env) (w : List Seg), wordOk w = true → Holds10 e w

theorem keyValue_ident (e : Env) (n : Str) (h : isIdent n = true) : e.keyValue n = (e.value n).getD [] := by
  have h1 : n ≠ ['?'] := by intro e'; subst e'; revert h; decide
  have h2 : n ≠ ['$'] := by intro e'; subst e'; revert h; decide
  simp [Env.keyValue, h1, h2]

theorem render_cons (s : Seg) (ss : List Seg) : render (s :: ss) = s.render ++ render ss := by simp [render]

theorem specExpand_cons (e : Env) (s : Seg) (ss : List Seg) : specExpand e (s :: ss) = s.value e ++ specExpand e ss := by
  simp [specExpand]

theorem render_cons_nonempty (a : Seg) (as : List Seg) (after : Str) (h : segOk after a = true) :
    ∃ d ds, render (a :: as) = d :: ds := by
  cases a with
  | lit t =>
    simp only [segOk, litOk, Bool.and_eq_true] at h
    cases t with
    | nil => simp at h
    | cons c cs => exact ⟨c, cs ++ render as, by simp [render, Seg.render]⟩
  | var n => exact ⟨'$', n ++ render as, by simp [render, Seg.render]⟩
  | braced n => exact ⟨'$', '{' :: (n ++ ['}'] ++ render as), by simp [render, Seg.render]⟩
  | status => exact ⟨'$', '?' :: render as, by simp [render, Seg.render]⟩
  | pid => exact ⟨'$', '$' :: render as, by simp [render, Seg.render]⟩

/-- The one condition on the text `rest` after the word: if the word ends in `$NAME`, `rest` must not go on with a character
that would extend the name. -/
theorem expand_render_append (e : Env) (w : List Seg) : ∀ (rest : Str), wordOk w = true →
    (∀ n, w.getLast? = some (.var n) → ∀ c, rest.head? = some c → isKeyChar c = false) →
    expandEnvs e (render w ++ rest) = specExpand e w ++ expandEnvs e rest := by
  induction w with
  | nil => intro rest _ _; simp [render, specExpand]
  | cons s ss ih =>
    intro rest hok hlast
    simp only [wordOk, Bool.and_eq_true] at hok
    obtain ⟨hs, hss⟩ := hok
    have hlast' : ∀ n, ss.getLast? = some (.var n) → ∀ c, rest.head? = some c → isKeyChar c = false := by
      intro n hn
      apply hlast n
      cases ss with
      | nil => simp at hn
      | cons a as => simpa [List.getLast?_cons_cons] using hn
    have ihs := ih rest hss hlast'
    rw [render_cons, specExpand_cons, List.append_assoc, List.append_assoc, ← ihs]
    cases s with
    | lit t =>
      simp only [segOk, litOk, List.all_eq_true, Bool.and_eq_true, decide_eq_true_eq, ne_eq] at hs
      exact expandEnvs_lits e t _ (fun c hc => (hs.2 c hc).1.1)
    | var n =>
      simp only [segOk, Bool.and_eq_true] at hs
      have hhead : ∀ c, (render ss ++ rest).head? = some c → isKeyChar c = false := by
        intro c hc
        cases ss with
        | nil => exact hlast n (by simp) c (by simpa [render] using hc)
        | cons a as =>
          simp only [wordOk, Bool.and_eq_true] at hss
          obtain ⟨d, ds, hd⟩ := render_cons_nonempty a as _ hss.1
          rw [hd] at hc hs
          simp at hc; subst hc
          simpa using hs.2
      have := expandEnvs_ref e _ n _ (dollarRef_var n (render ss ++ rest) hs.1 hhead)
      simp only [Seg.render, Seg.value, List.cons_append]
      rw [this, keyValue_ident e n hs.1]
    | braced n =>
      simp only [segOk] at hs
      have := expandEnvs_ref e _ n _ (dollarRef_braced n (render ss ++ rest) hs)
      simp only [Seg.render, Seg.value, List.cons_append, List.append_assoc, List.nil_append]
      rw [this, keyValue_ident e n hs]
    | status =>
      have := expandEnvs_ref e _ _ _ (dollarRef_special '?' (render ss ++ rest) (Or.inl rfl))
      simp only [Seg.render, Seg.value, List.cons_append, List.nil_append]
      rw [this]; simp [Env.keyValue]
    | pid =>
      have := expandEnvs_ref e _ _ _ (dollarRef_special '$' (render ss ++ rest) (Or.inr rfl))
      simp only [Seg.render, Seg.value, List.cons_append, List.nil_append]
      rw [this]; simp [Env.keyValue]

/-- **C10 (one word).** Every reference is replaced by its current value, exactly once. -/
theorem C10_full_holds : C10_full := by
  intro e w hok
  have := expand_render_append e w [] hok (by intro n _ c hc; simp at hc)
  simpa [Holds10, expandEnvs_nil] using this

/-- a token tagged `'` is never expanded, whatever the environment -/
theorem C10_token_sq (e : Env) (pre post : List Tok) (text : Str) :
    expandEnv e (pre ++ [(['\''], text)] ++ post) = expandEnv e pre ++ [(['\''], text)] ++ expandEnv e post := by
  simp [expandEnv]

/-- an unquoted or double-quoted token (`q ≠ .sq`) that the gate accepts is expanded by the single pass -/
theorem C10_token_dq (e : Env) (q : Quote) (w : List Seg) (hq : q ≠ .sq) (hok : wordOk w = true)
    (hgate : envInToken (render w) = true) :
    expandEnv e [(q.sep, render w)] = [specToken e q w] := by
  have hs : ¬ (q.sep = ['`'] ∨ q.sep = ['\'']) := by
    cases q <;> simp [Quote.sep] at hq ⊢
  have := C10_full_holds e w hok
  unfold Holds10 at this
  simp [expandEnv, hs, hgate, specToken, hq, this]

/-! ### the values are not scanned again: concrete witnesses, and the snapshot's loop refuted -/

def wEnv : Env := { vars := [("V1".toList, "$V2".toList), ("V2".toList, "hello".toList), ("SELF".toList, "x$SELF".toList)] }

/-- `V1='$V2'`: the result is the text `$V2`, not V2's value -/
example : expandEnvs wEnv "$V1".toList = "$V2".toList := by decide +kernel
/-- a self-referential value is inserted once -/
example : expandEnvs wEnv "$SELF".toList = "x$SELF".toList := by decide +kernel

/-- the rewrite loop of 32052dc expands the inserted value again -/
theorem C10_snapshot_rescans : Snapshot.expandEnvLoop wEnv 8 "$V1".toList = .ok "hello".toList := by decide +kernel

/-- … and on a self-referential value it uses up its fuel (here 40 rounds) -/
theorem C10_snapshot_self_diverges_sample : Snapshot.expandEnvLoop wEnv 40 "$SELF".toList = .diverge "env-loop" := by decide +kernel

example : wordOk [.lit "a".toList, .var "V1".toList, .braced "V2".toList, .lit "b".toList, .status, .pid, .var "X".toList] = true := by decide +kernel

end Cicada.C10
