import Cicada.Thm.C17
import Cicada.Lemmas.Lit
import Cicada.Lemmas.C01Esc
import Cicada.Thm.C01esc
/-!
# C17 — the listing round trip (`alias` prints `alias n='v'`; feeding the lines back recreates the table)

"Feeding back" is what the driver's `aliasrt` stream computes (`reread`): the line goes through `line_to_cmds` and
`CommandLine::from_line` with the table built so far, and the `alias` builtin runs on the first command's tokens.

The tokenizer treats the two name classes differently (alias.rs:33-35): for an identifier name the definition stays
ONE UNTAGGED token `n='v'` (the quotes are text; every expansion pass and the redirection parser look at it), for a
name with `-` or `.` it becomes the token `n=v` tagged `'` (nothing looks at it, but the builtin unquotes a value
that starts with `"`).  Hence the two halves of the guard `valueOk`.
Left out by the guard although the round trip works (remarks, no theorem here): `$NAME` forms (protected by the
`='...$x...'` rule of `env_in_token`), `{` that is no brace/range pattern, a single backquote, `*` when nothing matches.
-/
namespace Cicada.C17
open Cicada Cicada.PL Cicada.TokLemmas Cicada.PassLemmas

/-- the builtin's regex `[a-zA-Z0-9_.-]+` -/
def nameOk (n : Str) : Bool := !n.isEmpty && n.all isAliasNameChar
/-- the tokenizer's test `^[a-zA-Z0-9_]+=` for an assignment, whose quotes it keeps as text -/
def plainName (n : Str) : Bool := n.all isNameChar
/-- what an expansion pass or the redirection parser reacts to in an UNTAGGED token -/
def badA (c : Char) : Bool := c = '$' || c = '`' || c = '{' || c = '*' || c = '>'

/-- guard on the value, given the name: no `'` and no newline; for identifier names (untagged token) no `badA`
character; for names with `-` or `.` (quotes stripped) not a leading `"` -/
def valueOk (n v : Str) : Bool :=
  v.all (fun c => c != '\'' && c != '\n') &&
  (if plainName n then v.all (fun c => !badA c) else v.head? != some '"')

theorem valueOk_facts (n v : Str) (h : valueOk n v = true) :
    (∀ c ∈ v, c ≠ '\'') ∧ (∀ c ∈ v, c ≠ '\n') ∧ (plainName n = true → ∀ c ∈ v, badA c = false) ∧
    (plainName n = false → v.head? ≠ some '"') := by
  simp only [valueOk, Bool.and_eq_true, List.all_eq_true, bne_iff_ne, ne_eq] at h
  obtain ⟨h1, h2⟩ := h
  refine ⟨fun c hc => (h1 c hc).1, fun c hc => (h1 c hc).2, ?_, ?_⟩
  · intro hp c hc
    simp only [hp, ↓reduceIte, List.all_eq_true, Bool.not_eq_true'] at h2
    exact h2 c hc
  · intro hp
    simpa [hp] using h2

/-- one line fed back, as the driver's `aliasrt` stream computes it -/
def reread (se : SubstEnv) (A : List (Str × Str)) (line : Str) : List (Str × Str) :=
  match planOf { se with env := { se.env with aliases := A } } (planFuel line) line with
  | .ok (.ok p) =>
    (match p.commands with
     | c :: _ => (aliasBuiltin A c.tokens []).1
     | [] => A)
  | _ => A

/-! ### the tokenizer on the printed line -/

theorem aliasLine_eq (n v : Str) :
    aliasLine n v = 'a' :: 'l' :: 'i' :: 'a' :: 's' :: ' ' :: (n ++ '=' :: '\'' :: (v ++ ['\''])) := by
  unfold aliasLine
  lit_lists
  rw [List.append_assoc, List.append_assoc, List.append_assoc]
  rfl

theorem aliasName_wordChar (c : Char) (h : isAliasNameChar c = true) : wordChar c = true := by
  simp only [isAliasNameChar, Bool.or_eq_true, decide_eq_true_eq] at h
  simp only [wordChar, Bool.or_eq_true, decide_eq_true_eq]
  rcases h with (((h | h) | h) | h) | h <;> simp [h]

theorem aliasName_all_wordChar (n : Str) (h : n.all isAliasNameChar = true) : n.all wordChar = true := by
  rw [List.all_eq_true] at h ⊢
  exact fun c hc => aliasName_wordChar c (h c hc)

theorem nameOk_iff (n : Str) : nameOk n = true ↔ n ≠ [] ∧ n.all isAliasNameChar = true := by
  simp only [nameOk, Bool.and_eq_true, Bool.not_eq_true', List.isEmpty_eq_false_iff]

/-- the scanner after `name='` for an identifier name: the quote is kept as text, `sepSecond` remembers it -/
def inA (r : List Tok) (t : Str) (mp hd : Bool) : St :=
  { result := r, sepSecond := ['\''], token := t, newRound := false, metParen := mp, hasDollar := hd }

theorem stepTail_inA (r : List Tok) (t : Str) (mp hd : Bool) (c : Char) (h1 : c ≠ '\'') :
    stepTail (inA r t mp hd) c = inA r (t ++ [c]) mp hd := by
  have h1' : ¬ '\'' = c := fun h => h1 h.symm
  unfold stepTail
  by_cases hs : c = ' '
  · subst hs
    cases mp <;> simp [inA]
  · by_cases hq : isQ c = true
    · cases mp <;> simp [inA, hs, hq, h1']
    · simp [inA, hs, hq]

/-- `ht`: a `(` at the very start of a token would be dropped -/
theorem step_inA (r : List Tok) (t : Str) (mp hd : Bool) (c : Char) (n : Option Char)
    (ht : t ≠ []) (h1 : c ≠ '\'') (h2 : c ≠ '$') :
    step (inA r t mp hd) c n = inA r (t ++ [c]) (if c = '(' then true else if c = ')' then false else mp) hd := by
  -- `stepMid` falls through to `stepTail` because `sepSecond ≠ []`; `step` itself only moves the parenthesis flag
  have hmid : ∀ mp', stepMid (inA r t mp' hd) c = inA r (t ++ [c]) mp' hd := by
    intro mp'
    have := stepTail_inA r t mp' hd c h1
    simp only [stepMid, inA] at this ⊢
    simp [this]
  by_cases hp : c = '('
  · subst hp
    simpa [step, inA, ht] using hmid true
  · by_cases hq : c = ')'
    · subst hq
      simpa [step, inA, ht] using hmid false
    · by_cases hb : c = '\\'
      · subst hb; simp [step, inA]
      · simpa [step, inA, ht, hp, hq, hb, h2] using hmid mp

/-- whatever the parenthesis flag is at the closing quote, the word pushed is the text read, quote included -/
theorem finish_go_inA (v : Str) : ∀ (r : List Tok) (t : Str) (mp hd : Bool), t ≠ [] →
    (∀ c ∈ v, c ≠ '\'' ∧ c ≠ '$') → reEnvLoose (t ++ v) = true →
    finish (go (inA r t mp hd) (v ++ ['\''])) = r ++ [([], t ++ v ++ ['\''])] := by
  induction v with
  | nil =>
    intro r t mp hd _ _ hre
    rw [List.append_nil] at hre ⊢
    rw [List.nil_append, go, go]
    cases mp <;> simp [step, stepMid, stepTail, inA, isQ, hre, finish]
  | cons c cs ih =>
    intro r t mp hd ht h hre
    obtain ⟨h1, h2⟩ := h c List.mem_cons_self
    rw [List.cons_append, go, step_inA r t mp hd c _ ht h1 h2, ih _ _ _ _ (by simp) (fun x hx => h x (List.mem_cons_of_mem _ hx))
      (by rwa [List.append_assoc]), List.append_assoc t]
    rfl

theorem step_inW_eqSign (r : List Tok) (t : Str) (hd : Bool) (n : Option Char) :
    step (inW r t hd) '=' n = inW r (t ++ ['=']) hd := by
  simp [step, stepMid, stepTail, inW, isQ]

theorem step_inW_quote (r : List Tok) (t : Str) (hd : Bool) (n : Option Char) :
    step (inW r t hd) '\'' n = if reEnvLoose t then inA r (t ++ ['\'']) false hd else inQ r '\'' t hd := by
  by_cases h : reEnvLoose t = true <;> simp [step, stepMid, stepTail, inW, inA, inQ, isQ, h]

theorem reEnvLoose_go_append (n rest : Str) (hn : ∀ c ∈ n, c ≠ '=') :
    reEnvLoose.go (n ++ '=' :: rest) = (n.all isNameChar && rest.all (· ≠ '\n')) := by
  induction n with
  | nil => simp [reEnvLoose.go]
  | cons c cs ih =>
    have hc := hn c (by simp)
    simp [reEnvLoose.go, hc, ih (fun x hx => hn x (by simp [hx])), Bool.and_assoc]

theorem reEnvLoose_assign (n rest : Str) (hne : n ≠ []) (hn : n.all isAliasNameChar = true) :
    reEnvLoose (n ++ '=' :: rest) = (plainName n && rest.all (· ≠ '\n')) := by
  cases n with
  | nil => exact absurd rfl hne
  | cons c cs =>
    have h' := word_no _ (aliasName_all_wordChar _ hn) '=' rfl
    simp only [List.cons_append, reEnvLoose, plainName, List.all_cons]
    rw [reEnvLoose_go_append cs rest (fun x hx => h' x (by simp [hx]))]
    simp [Bool.and_assoc]

def aliasTok : Tok := ([], ['a', 'l', 'i', 'a', 's'])

theorem go_clean_word (r : List Tok) (hd : Bool) (w rest : Str) (hne : w ≠ []) (hw : w.all wordChar = true) :
    go (clean r hd) (w ++ rest) = go (inW r w hd) rest := by
  cases w with
  | nil => exact absurd rfl hne
  | cons c cs =>
    rw [List.all_cons, Bool.and_eq_true] at hw
    rw [List.cons_append, go, step_clean_word _ _ c _ hw.1]
    exact go_word cs r [c] hd rest hw.2

theorem go_prefix (n v : Str) (hne : n ≠ []) (hn : n.all isAliasNameChar = true) :
    go {} (aliasLine n v) = go (step (inW [aliasTok] (n ++ ['=']) false) '\'' (v ++ ['\'']).head?) (v ++ ['\'']) := by
  rw [aliasLine_eq]
  show go (clean [] false) (['a','l','i','a','s'] ++ ' ' :: (n ++ '=' :: '\'' :: (v ++ ['\'']))) = _
  rw [go_clean_word _ _ _ _ (by decide) (by decide), go, step_inW_space,
    go_clean_word _ _ n _ hne (aliasName_all_wordChar n hn), go, step_inW_eqSign, go]
  rfl

/-- the second token of the re-read line (the comment at alias.rs:33-35) -/
def defTok (n v : Str) : Tok :=
  if plainName n then ([], n ++ '=' :: '\'' :: (v ++ ['\''])) else (['\''], n ++ '=' :: v)

theorem finish_go_sq (r : List Tok) (t v : Str) (hd : Bool) (hq : ∀ c ∈ v, c ≠ '\'') :
    finish (go (inQ r '\'' t hd) (v ++ ['\''])) = r ++ [(['\''], t ++ v)] := by
  rw [go_sq_body v _ _ _ _ hq, go, go, step_close _ _ _ '\'' _ (Or.inl rfl)]
  simp only [finish, doneQ, or_true, ↓reduceIte, reduceCtorEq, false_and]

theorem parseLine_aliasLine (n v : Str) (hn : nameOk n = true) (hq : ∀ c ∈ v, c ≠ '\'') (hnl : ∀ c ∈ v, c ≠ '\n')
    (hd : plainName n = true → ∀ c ∈ v, c ≠ '$') :
    parseLine (aliasLine n v) = [aliasTok, defTok n v] := by
  obtain ⟨hne, hn⟩ := (nameOk_iff n).mp hn
  rw [C01.parseLine_of_go (any_alpha_not_arith _ (by rw [aliasLine_eq]; rfl)) rfl, go_prefix n v hne hn, step_inW_quote]
  have e1 : reEnvLoose (n ++ ['=']) = plainName n := by
    rw [reEnvLoose_assign n [] hne hn]; simp
  rw [e1]
  by_cases hp : plainName n = true
  · simp only [hp, ↓reduceIte, defTok]
    rw [finish_go_inA v _ _ _ _ (by simp) (fun c hc => ⟨hq c hc, hd hp c hc⟩)]
    · simp
    · have : n ++ ['='] ++ ['\''] ++ v = n ++ '=' :: ('\'' :: v) := by simp
      rw [this, reEnvLoose_assign n _ hne hn, hp]
      simpa using hnl
  · simp only [hp, Bool.false_eq_true, ↓reduceIte, defTok]
    rw [finish_go_sq _ _ v _ hq, List.append_assoc]
    rfl

/-! ### the expansion passes and planning leave the two tokens alone -/

theorem wordChar_not_bad {c : Char} (h : wordChar c = true) : badA c = false := by
  have ne : ∀ d, wordChar d = false → c ≠ d := fun d => wordChar_ne h
  simp [badA, ne '$' rfl, ne '`' rfl, ne '{' rfl, ne '*' rfl, ne '>' rfl]

theorem badA_ne {c d : Char} (h : badA c = false) (hd : badA d = true) : c ≠ d :=
  fun e => by rw [e, hd] at h; cases h

theorem defTok_inert (n v : Str) (hne : n ≠ []) (hn : n.all isAliasNameChar = true)
    (hv : plainName n = true → ∀ c ∈ v, badA c = false) : C01.Quiet (defTok n v) ∧ ArgTok (defTok n v) := by
  unfold defTok
  split
  · next hp =>
    have hw := List.all_eq_true.mp (aliasName_all_wordChar n hn)
    have hb : ∀ c ∈ n ++ '=' :: '\'' :: (v ++ ['\'']), badA c = false := by
      intro c hc
      simp only [List.mem_append, List.mem_cons, List.mem_nil_iff, or_false] at hc
      rcases hc with hc | rfl | rfl | hc | rfl
      · exact wordChar_not_bad (hw c hc)
      · rfl
      · rfl
      · exact hv hp c hc
      · rfl
    obtain ⟨c, cs, rfl⟩ := List.exists_cons_of_ne_nil hne
    have hc := hw c (.head _)
    -- untagged token: `Quiet` = no `$`, backquote; no `{`, `*`; no leading `~`.  `ArgTok` = not `|`, no leading `<`, not `&`, no `>`
    refine ⟨Or.inr ⟨fun x hx => ⟨badA_ne (hb x hx) rfl, badA_ne (hb x hx) rfl⟩,
      Or.inr (Or.inr ⟨rfl, fun x hx => ⟨badA_ne (hb x hx) rfl, badA_ne (hb x hx) rfl⟩, ?_⟩)⟩,
      Or.inr ⟨?_, ?_, ?_, fun x hx => badA_ne (hb x hx) rfl⟩⟩
    · simpa using wordChar_ne hc (x := '~') rfl
    · simp
    · simpa using wordChar_ne hc (x := '<') rfl
    · simp
  · exact ⟨Or.inl rfl, Or.inl (by simp)⟩

def aliasCmd (n v : Str) : Command := { tokens := [aliasTok, defTok n v], redirectsTo := [], redirectFrom := none }

theorem planOf_aliasLine (se : SubstEnv) (n v : Str) (hn : nameOk n = true) (hq : ∀ c ∈ v, c ≠ '\'')
    (hnl : ∀ c ∈ v, c ≠ '\n') (hv : plainName n = true → ∀ c ∈ v, badA c = false)
    (ha : lookup se.env.aliases "alias".toList = none) :
    planOf se (planFuel (aliasLine n v)) (aliasLine n v) =
      .ok (.ok { commands := [aliasCmd n v], envs := [], background := false }) := by
  have hpl := parseLine_aliasLine n v hn hq hnl (fun hp c hc => badA_ne (hv hp c hc) rfl)
  obtain ⟨hne, hn⟩ := (nameOk_iff n).mp hn
  obtain ⟨hqt, hat⟩ := defTok_inert n v hne hn hv
  -- in order: the tokens; `alias` is a plain word with a letter, no alias, not `xargs`; no decoy stage (context `alone`);
  -- the argument token is quiet and no redirection; it is not a trailing `&`; the fuel suffices
  refine C01.planOf_tokens se _ _ ['a', 'l', 'i', 'a', 's'] [defTok n v] .alone hpl (by decide) (by decide) ha (by decide)
    (fun h => nomatch h) (fun t ht => List.mem_singleton.mp ht ▸ ⟨hqt, hat.argTok'⟩) ?_ (by simp [planFuel])
  intro e
  rcases hat with h | ⟨_, _, h, _⟩
  · exact h (congrArg Prod.fst (Option.some.inj e))
  · exact h (congrArg Prod.snd (Option.some.inj e))

/-! ### the `alias` builtin on the two tokens -/

/-- also for a name that looks like arithmetic, e.g. `1-2` -/
theorem toolsUnquote_name (n : Str) (hne : n ≠ []) (hn : n.all isAliasNameChar = true) : toolsUnquote n = n := by
  unfold toolsUnquote parseLine parseLineInfo
  by_cases har : isArithmetic n = true
  · simp [har, splitOnChar_of_forall_ne ' ' n (word_no n (aliasName_all_wordChar n hn) ' ' rfl)]
  · have hgo : go {} n = inW [] n false := by
      have := go_clean_word [] false n [] hne (aliasName_all_wordChar n hn)
      rwa [List.append_nil] at this
    simp only [har, Bool.false_eq_true, ↓reduceIte, hgo]
    simp [finish, inW, hne]

theorem not_arith_quoted (v : Str) : isArithmetic ('\'' :: (v ++ ['\''])) = false := by
  have : reArithShape ('\'' :: (v ++ ['\''])) = false := by
    have e : '\'' :: (v ++ ['\'']) = ('\'' :: v) ++ ['\''] := by simp
    unfold reArithShape
    rw [e, List.getLast?_concat, List.dropLast_concat]
    simp [arithBody, isDigitA]
  simp [isArithmetic, this]

theorem toolsUnquote_quoted (v : Str) (hq : ∀ c ∈ v, c ≠ '\'') : toolsUnquote ('\'' :: (v ++ ['\''])) = v := by
  rw [toolsUnquote, C01.parseLine_of_go (not_arith_quoted v) rfl, go, show ({} : St) = clean [] false from rfl,
    step_clean_quote _ _ '\'' _ (Or.inl rfl), finish_go_sq _ _ v _ hq]
  rfl

/-- the builtin on `name=rest`: the value is unquoted only if it begins with a quote -/
theorem aliasBuiltin_define (A sorted : List (Str × Str)) (t0 : Tok) (sep n rest : Str) (hne : n ≠ [])
    (hn : n.all isAliasNameChar = true) (hnl : noNl rest = true) :
    aliasBuiltin A [t0, (sep, n ++ '=' :: rest)] sorted =
      (aliasInsert A n (if rest.head? = some '"' ∨ rest.head? = some '\'' then toolsUnquote rest else rest), {}) := by
  have hp := List.all_eq_true.mp hn
  have hq : ¬ isAliasNameChar '=' = true := by decide
  have e1 : (n ++ '=' :: rest).takeWhile isAliasNameChar = n := by
    rw [List.takeWhile_append_of_pos hp, List.takeWhile_cons_of_neg hq, List.append_nil]
  have e2 : (n ++ '=' :: rest).dropWhile isAliasNameChar = '=' :: rest := by
    rw [List.dropWhile_append_of_pos hp, List.dropWhile_cons_of_neg hq]
  have e0 : (n ++ '=' :: rest).all isAliasNameChar = false := List.all_eq_false.mpr ⟨'=', by simp, by decide⟩
  simp only [aliasBuiltin, e0, e1, e2, hnl, toolsUnquote_name n hne hn]
  simp [hne]

theorem aliasBuiltin_defTok (A sorted : List (Str × Str)) (t0 : Tok) (n v : Str) (hn : nameOk n = true)
    (hq : ∀ c ∈ v, c ≠ '\'') (hnl : ∀ c ∈ v, c ≠ '\n') (hdq : plainName n = false → v.head? ≠ some '"') :
    aliasBuiltin A [t0, defTok n v] sorted = (aliasInsert A n v, {}) := by
  obtain ⟨hne, hn⟩ := (nameOk_iff n).mp hn
  have hnl' : noNl v = true := by
    simp only [noNl, List.all_eq_true, decide_eq_true_eq]; exact hnl
  unfold defTok
  split
  · rw [aliasBuiltin_define A sorted t0 _ n _ hne hn (by rw [noNl, List.all_cons, List.all_append, ← noNl, hnl']; rfl), List.head?_cons,
      if_pos (Or.inr rfl), toolsUnquote_quoted v hq]
  · next hp =>
    have h1 : v.head? ≠ some '\'' := fun e => hq '\'' (List.mem_of_mem_head? e) rfl
    rw [aliasBuiltin_define A sorted t0 _ n v hne hn hnl', if_neg (not_or.mpr ⟨hdq (by simpa using hp), h1⟩)]

/-! ### list splitting (`line_to_cmds`) -/

theorem lineToCmds_aliasLine (n v : Str) (hn : n.all isAliasNameChar = true) (hq : ∀ c ∈ v, c ≠ '\'') :
    lineToCmds (aliasLine n v) = [aliasLine n v] := by
  have hplain : ∀ (c : Char) (b : Str), c = ' ' ∨ c = '=' →
      C03.safeSeg none false (c :: b) = C03.safeSeg none false b := by
    rintro c b (rfl | rfl) <;> simp [C03.safeSeg]
  have hsafe : C03.safeSeg none false (aliasLine n v) = true := by
    rw [aliasLine_eq]
    show C03.safeSeg none false (['a', 'l', 'i', 'a', 's'] ++ ' ' :: (n ++ '=' :: '\'' :: (v ++ ['\'']))) = true
    rw [C01.safeSeg_word _ _ (by decide), hplain _ _ (Or.inl rfl), C01.safeSeg_word n _ (aliasName_all_wordChar n hn),
      hplain _ _ (Or.inr rfl)]
    show C03.safeSeg (some '\'') false (v ++ '\'' :: []) = true
    rw [C01.safeSeg_sq v [] hq]
    rfl
  have htrim : trim (aliasLine n v) = aliasLine n v := by
    rw [aliasLine_eq]
    exact trim_id 'a' '\'' _ ('a' :: 'l' :: 'i' :: 'a' :: 's' :: ' ' :: (n ++ '=' :: '\'' :: v)) (by simp)
      (by decide) (by decide)
  have hsep : (trim (aliasLine n v)).isEmpty = false ∧ isListSep (trim (aliasLine n v)) = false := by
    rw [htrim, aliasLine_eq]; exact ⟨rfl, by simp [isListSep]⟩
  have hgd : C03.guard ⟨aliasLine n v, []⟩ = true := by
    simp only [C03.guard, C03.segOk, hsafe, hsep.1, hsep.2, List.all_nil, Bool.not_false, Bool.and_self]
  have h := C03.lineToCmds_render ⟨aliasLine n v, []⟩ hgd
  rw [show C03.render ⟨aliasLine n v, []⟩ = aliasLine n v from List.append_nil _] at h
  rw [h, C03.items, htrim]
  rfl

/-! ### one line -/

/-- **C17 (listing round trip, one line), plan level.**  For every alias name the builtin accepts and every value
in the guard, the printed line `alias n='v'` is one list item, `from_line` plans it as the single command
`alias <definition token>` without redirections, and the `alias` builtin run on these tokens prints nothing, returns
status 0 and stores exactly `n ↦ v`.  The planner's table (in `se`) and the builtin's table `A` are independent here;
`reread` passes the same table for both. -/
theorem C17_list_reread_plan (se : SubstEnv) (A sorted : List (Str × Str)) (n v : Str)
    (hn : nameOk n = true) (hv : valueOk n v = true) (ha : lookup se.env.aliases "alias".toList = none) :
    lineToCmds (aliasLine n v) = [aliasLine n v] ∧
    planOf se (planFuel (aliasLine n v)) (aliasLine n v) =
      .ok (.ok { commands := [aliasCmd n v], envs := [], background := false }) ∧
    aliasBuiltin A (aliasCmd n v).tokens sorted = (aliasInsert A n v, {}) := by
  obtain ⟨h1, h2, h3, h4⟩ := valueOk_facts n v hv
  exact ⟨lineToCmds_aliasLine n v ((nameOk_iff n).mp hn).2 h1, planOf_aliasLine se n v hn h1 h2 h3 ha,
    aliasBuiltin_defTok A sorted aliasTok n v hn h1 h2 h4⟩

def RoundTrip (se : SubstEnv) (A : List (Str × Str)) (n v : Str) : Prop :=
  reread se A (aliasLine n v) = aliasInsert A n v

/-- **C17 (listing round trip, one line; "partial": on the guard `valueOk`).**  Feeding the printed line back defines
exactly `n ↦ v`. -/
theorem C17_list_roundtrip_partial (se : SubstEnv) (A : List (Str × Str)) (n v : Str)
    (hn : nameOk n = true) (hv : valueOk n v = true) (ha : lookup A "alias".toList = none) :
    RoundTrip se A n v ∧
    lookup (reread se A (aliasLine n v)) n = some v ∧
    ∀ m, m ≠ n → lookup (reread se A (aliasLine n v)) m = lookup A m := by
  have h := C17_list_reread_plan { se with env := { se.env with aliases := A } } A [] n v hn hv ha
  have e : reread se A (aliasLine n v) = aliasInsert A n v := by
    unfold reread
    rw [h.2.1]
    simp only
    exact congrArg Prod.fst h.2.2
  refine ⟨e, ?_, ?_⟩
  · rw [e]; exact lookup_insert_same A n v
  · intro m hm; rw [e]; exact lookup_insert_other A n v m hm

/-! ### outside the guard -/

def C17_list_roundtrip_unguarded : Prop :=
  ∀ (se : SubstEnv) (A : List (Str × Str)) (n v : Str), nameOk n = true → lookup A "alias".toList = none →
    RoundTrip se A n v

def se0 : SubstEnv := { env := {}, cmdOut := fun _ => [] }

/-- KF-C17-list-squote: `alias q='it's'` re-reads as `its` -/
theorem C17_finding_list_squote :
    reread se0 [] (aliasLine "q".toList "it's".toList) = [("q".toList, "its".toList)] ∧
    valueOk "q".toList "it's".toList = false := by decide +kernel

/-- KF-C17-value-gt: `alias q='a > b'` re-reads as `a ` (the rest is taken as a redirection) -/
theorem C17_finding_value_gt :
    reread se0 [] (aliasLine "q".toList "a > b".toList) = [("q".toList, "a ".toList)] ∧
    valueOk "q".toList "a > b".toList = false := by
      lit_lists
      decide +kernel

theorem C17_list_roundtrip_unguarded_false : ¬ C17_list_roundtrip_unguarded := by
  intro h
  have h1 := h se0 [] "q".toList "it's".toList (by decide) (by decide)
  have h2 := C17_finding_list_squote.1
  unfold RoundTrip at h1
  rw [h2] at h1
  revert h1; decide

/-- KF-C17-list-dquote-dashed: the builtin unquotes the leading `"x y"` -/
theorem C17_finding_list_dquote_dashed :
    reread se0 [] (aliasLine "a-b".toList "\"x y\" z".toList) = [("a-b".toList, "x y".toList)] ∧
    valueOk "a-b".toList "\"x y\" z".toList = false := by
      lit_lists
      decide +kernel

/-- KF-C17-list-dollar (`1` is the model's pid) -/
theorem C17_finding_list_dollar :
    reread se0 [] (aliasLine "q".toList "echo $$".toList) = [("q".toList, "echo 1".toList)] ∧
    valueOk "q".toList "echo $$".toList = false := by
      lit_lists
      decide +kernel

/-- KF-C17-list-brace: three tokens, a syntax error for the builtin, nothing defined -/
theorem C17_finding_list_brace :
    reread se0 [] (aliasLine "q".toList "echo {a,b}".toList) = [] ∧
    valueOk "q".toList "echo {a,b}".toList = false := by
      lit_lists
      decide +kernel

/-- the class of KF-C17-list-dollar for a command substitution (no entry of its own in the findings list) -/
theorem C17_finding_list_backquote :
    reread { env := {}, cmdOut := fun _ => "OUT".toList } [] (aliasLine "q".toList "echo `x`".toList)
      = [("q".toList, "echo OUT".toList)] ∧
    valueOk "q".toList "echo `x`".toList = false := by
      lit_lists
      decide +kernel

example : nameOk "ll".toList = true ∧ valueOk "ll".toList "ls -l \"a b\" | wc < f; x && y # (z) \\ ~".toList = true := by
  lit_lists
  decide +kernel
example : nameOk "a-b.c".toList = true ∧ valueOk "a-b.c".toList "echo $$ {a,b} > f `x` * \"q\"".toList = true := by
  lit_lists
  decide +kernel
example : nameOk "1-2".toList = true ∧ valueOk "1-2".toList [] = true := by decide +kernel

/-! ### all lines -/

def lineOf (p : Str × Str) : Str := aliasLine p.1 p.2

def rereadAll (se : SubstEnv) (lines : List Str) : List (Str × Str) := lines.foldl (reread se) []

/-- the name `alias` is excluded: once defined, it would be expanded as the command word of every later line -/
def entryOk (p : Str × Str) : Bool := nameOk p.1 && valueOk p.1 p.2 && (p.1 != "alias".toList)

theorem foldl_reread (se : SubstEnv) (L : List (Str × Str)) (hok : ∀ p ∈ L, entryOk p = true) :
    ∀ A0, lookup A0 "alias".toList = none →
      (L.map lineOf).foldl (reread se) A0 = L.foldl (fun A p => aliasInsert A p.1 p.2) A0 := by
  induction L with
  | nil => intro A0 _; rfl
  | cons p rest ih =>
    intro A0 h0
    have hp := hok p (by simp)
    simp only [entryOk, Bool.and_eq_true, bne_iff_ne, ne_eq] at hp
    obtain ⟨⟨hp1, hp2⟩, hp3⟩ := hp
    have e := (C17_list_roundtrip_partial se A0 p.1 p.2 hp1 hp2 h0).1
    unfold RoundTrip at e
    simp only [List.map_cons, List.foldl_cons, lineOf]
    rw [e]
    apply ih (fun x hx => hok x (by simp [hx]))
    rw [lookup_insert_other A0 p.1 p.2 _ (fun h => hp3 h.symm)]
    exact h0

theorem lookup_foldl_insert (R : List (Str × Str)) (m : Str) :
    lookup (R.reverse.foldl (fun A p => aliasInsert A p.1 p.2) []) m = lookup R m := by
  induction R with
  | nil => rfl
  | cons p R ih =>
    rw [List.reverse_cons, List.foldl_append, List.foldl_cons, List.foldl_nil]
    by_cases hm : m = p.1
    · subst hm
      rw [lookup_insert_same]
      simp [lookup]
    · rw [lookup_insert_other _ _ _ _ hm, ih]
      simp [lookup, List.find?, Ne.symm hm]

theorem lineOf_noNl (p : Str × Str) (h : entryOk p = true) : ∀ c ∈ lineOf p, c ≠ '\n' := by
  simp only [entryOk, Bool.and_eq_true] at h
  obtain ⟨⟨h1, h2⟩, _⟩ := h
  have hv := (valueOk_facts _ _ h2).2.1
  have hn := word_no p.1 (aliasName_all_wordChar _ ((nameOk_iff _).mp h1).2) '\n' rfl
  intro c hc
  rw [lineOf, aliasLine_eq] at hc
  simp only [List.mem_cons, List.mem_append, List.mem_nil_iff, or_false] at hc
  rcases hc with rfl | rfl | rfl | rfl | rfl | rfl | hc | rfl | rfl | hc | rfl
  all_goals first | decide | exact hn c hc | exact hv c hc

def listingOut (L : List (Str × Str)) : Str := joinWith ['\n'] (L.map lineOf)

/-- **C17 (listing).**  `alias` without arguments leaves the table alone, returns status 0, prints nothing on
stderr, and prints exactly one line `alias n='v'` per entry of its listing argument `L` (the caller passes the table in
listing order: `hperm` of `C17_list_all`); on entries in the guard, splitting the output at newlines gives the lines back. -/
theorem C17_listing_lines (A L : List (Str × Str)) (t0 : Tok) :
    (aliasBuiltin A [t0] L).1 = A ∧ (aliasBuiltin A [t0] L).2.status = 0 ∧ (aliasBuiltin A [t0] L).2.err = [] ∧
    (aliasBuiltin A [t0] L).2.out = listingOut L ∧
    (L ≠ [] → (∀ p ∈ L, entryOk p = true) → splitOnChar '\n' (listingOut L) = L.map lineOf) := by
  refine ⟨rfl, rfl, rfl, rfl, ?_⟩
  intro hne hok
  apply splitOnChar_joinWith
  · simpa using hne
  · intro x hx
    obtain ⟨p, hp, rfl⟩ := List.mem_map.mp hx
    exact lineOf_noNl p (hok p hp)

/-- **C17 (listing round trip, all lines; order).**  Re-reading all printed lines into an empty table performs the
definitions in the listing order, so every name maps to its last listed value. -/
theorem C17_list_all_order (se : SubstEnv) (L : List (Str × Str)) (hok : ∀ p ∈ L, entryOk p = true) :
    rereadAll se (splitOnChar '\n' (listingOut L)) = L.foldl (fun T p => aliasInsert T p.1 p.2) [] ∧
    ∀ m, lookup (rereadAll se (splitOnChar '\n' (listingOut L))) m = lookup L.reverse m := by
  have key : rereadAll se (splitOnChar '\n' (listingOut L)) = L.foldl (fun T p => aliasInsert T p.1 p.2) [] := by
    by_cases hne : L = []
    · subst hne
      rfl
    · rw [(C17_listing_lines [] L ([], [])).2.2.2.2 hne hok]
      exact foldl_reread se L hok [] rfl
  exact ⟨key, fun m => by rw [key, ← lookup_foldl_insert L.reverse m, List.reverse_reverse]⟩

/-- **C17 (listing round trip, all lines).**  If the listing order `L` enumerates the table `A` (same entries, names
distinct - it is a map) and every entry is in the guard, then re-reading ALL printed lines into an empty table
reproduces `A` as a finite map. -/
theorem C17_list_all (se : SubstEnv) (A L : List (Str × Str)) (hperm : ∀ p, p ∈ L ↔ p ∈ A)
    (hA : (keys A).Nodup) (hL : (keys L).Nodup) (hok : ∀ p ∈ L, entryOk p = true) :
    ∀ m, lookup (rereadAll se (splitOnChar '\n' (listingOut L))) m = lookup A m := by
  intro m
  have hR : (keys L.reverse).Nodup := by
    simp only [keys, List.map_reverse, List.Nodup, List.pairwise_reverse]
    exact List.Pairwise.imp Ne.symm hL
  rw [(C17_list_all_order se L hok).2 m]
  exact lookup_congr L.reverse A hR hA (fun p => List.mem_reverse.trans (hperm p)) m

def exTable : List (Str × Str) :=
  [("ll".toList, "ls -l | wc".toList), ("a-b".toList, "echo $$ > f".toList), ("g.x".toList, "grep \"a b\"".toList)]
example : (∀ p ∈ exTable, entryOk p = true) ∧ (keys exTable).Nodup := by
  unfold exTable
  lit_lists
  decide +kernel
example : rereadAll se0 (splitOnChar '\n' (listingOut exTable)) = exTable.reverse := by
  unfold exTable
  lit_lists
  decide +kernel

end Cicada.C17
