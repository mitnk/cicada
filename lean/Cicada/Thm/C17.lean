import Cicada.Spec.C17
/-!
# C17 — aliases replace exactly the command word, once; the table is a finite map

`expand_alias` reads the tokens from left to right in one of two modes (the next token is a command word, or an
argument); what it emits for a token and the mode it goes on in depend on the mode and the token only (`go_cons`),
so its output splits wherever the input is cut (`go_append`).  "Once" is structural: the function never looks at its
own output.  Finding KF-C17-xargs: the word after `xargs` is expanded although it is no command word.
-/
namespace Cicada.C17
open Cicada

/-- the mode in which the scanner reads on after a token read in mode `b` (`true`: the next token is a command
word): command mode after an unquoted `|`, and after the command word `xargs` -/
def nextMode (b : Bool) (t : Tok) : Bool := decide (t.1 = [] ∧ t.2 = ['|']) || (b && decide (t.2 = "xargs".toList))

theorem go_cons (e : Env) (b : Bool) (t : Tok) (rest : List Tok) :
    expandAliasGo e b (t :: rest) = expandAliasGo e b [t] ++ expandAliasGo e (nextMode b t) rest := by
  obtain ⟨sep, w⟩ := t
  by_cases hp : sep = [] ∧ w = ['|']
  · simp [expandAliasGo, nextMode, hp]
  · cases b
    · simp [expandAliasGo, nextMode, hp]
    · by_cases hx : w = ['x', 'a', 'r', 'g', 's']
      · simp [expandAliasGo, nextMode, hx]
      · cases hl : lookup e.aliases w with
        | none => simp [expandAliasGo, nextMode, hp, hx, hl]
        | some v =>
          by_cases hv : v = [] <;> simp [expandAliasGo, nextMode, hp, hx, hl, hv]

theorem go_append (e : Env) : ∀ (pre : List Tok) (b : Bool) (rest : List Tok),
    expandAliasGo e b (pre ++ rest) = expandAliasGo e b pre ++ expandAliasGo e (pre.foldl nextMode b) rest := by
  intro pre
  induction pre with
  | nil => intro b rest; rfl
  | cons t ts ih =>
    intro b rest
    rw [List.cons_append, go_cons, ih, go_cons e b t ts, List.append_assoc, List.foldl_cons]

theorem go_false_cons (e : Env) (s w : Str) (post : List Tok) :
    expandAliasGo e false ((s, w) :: post) = (s, w) :: expandAliasGo e (decide (s = [] ∧ w = ['|'])) post := by
  rw [go_cons]
  simp [expandAliasGo, nextMode]

def noBarePipe (s : List Tok) : Bool := s.all (fun t => !(t.1 = [] && t.2 = ['|']))

theorem go_false_stage (e : Env) (s : List Tok) (h : noBarePipe s = true) :
    ∀ rest, expandAliasGo e false (s ++ rest) = s ++ expandAliasGo e false rest := by
  induction s with
  | nil => intro rest; rfl
  | cons t ts ih =>
    intro rest
    simp only [noBarePipe, List.all_cons, Bool.and_eq_true, Bool.not_eq_true'] at h
    rw [List.cons_append, go_false_cons, Bool.decide_and, h.1, ih h.2, List.cons_append]

/-- an EMPTY stage leaves the scanner in command mode, hence `decide (s = [])` -/
theorem go_true_stage (e : Env) (s : List Tok) (h : stageOk s = true) :
    ∀ rest, expandAliasGo e true (s ++ rest) = specStage e.aliases s ++ expandAliasGo e (s = []) rest := by
  intro rest
  cases s with
  | nil => rfl
  | cons t ts =>
    obtain ⟨sep, w⟩ := t
    simp only [stageOk, List.all_cons, Bool.and_eq_true, Bool.not_eq_true', decide_eq_true_eq] at h
    obtain ⟨⟨h1, hts⟩, hx⟩ := h
    have hx' : ¬ w = ['x', 'a', 'r', 'g', 's'] := hx
    have hnp : ¬ (sep = [] ∧ w = ['|']) := by simpa using h1
    have hst : specStage e.aliases ((sep, w) :: ts) = expandAliasGo e true [(sep, w)] ++ ts := by
      cases hl : lookup e.aliases w with
      | none => simp [specStage, expandAliasGo, hl, hnp, hx']
      | some v => by_cases hv : v = [] <;> simp [specStage, expandAliasGo, hl, hnp, hx', hv]
    rw [List.cons_append, go_cons, show nextMode true (sep, w) = false by simp [nextMode, hnp, hx'],
      go_false_stage e ts hts, hst, List.append_assoc]
    rfl

/-- **C17 (replacement).** Exactly the command word of each stage is replaced by the words of its value (no stage
holding an unquoted `|` or starting with `xargs`). -/
theorem C17_expand (e : Env) (stages : List (List Tok)) (hg : guard stages = true) :
    expandAlias e (joinStages stages) = specAlias e.aliases stages := by
  unfold expandAlias
  induction stages with
  | nil => rfl
  | cons s more ih =>
    rw [guard, List.all_cons, Bool.and_eq_true] at hg
    cases more with
    | nil =>
      have := go_true_stage e s hg.1 []
      rwa [List.append_nil, show expandAliasGo e _ [] = [] from rfl, List.append_nil] at this
    | cons s2 more2 =>
      show expandAliasGo e true (s ++ pipeTok :: joinStages (s2 :: more2)) = specStage _ s ++ pipeTok :: specAlias _ (s2 :: more2)
      rw [go_true_stage e s hg.1, go_cons, ← ih hg.2]
      rfl

/-- the value may hold the word itself (`ls ↦ "ls -l"` gives `ls -l`): the result is not read again -/
theorem C17_self (e : Env) (n v : Str) (h : lookup e.aliases n = some v) (hv : v ≠ []) (hn : n ≠ "xargs".toList) (hp : n ≠ ['|']) :
    expandAlias e [([], n)] = parseLine v := by
  have hn' : ¬ n = ['x', 'a', 'r', 'g', 's'] := hn
  have := C17_expand e [[([], n)]] (by simp [guard, stageOk, hn', hp])
  simpa [joinStages, specAlias, specStage, h, hv] using this

/-! ### the alias table is a finite map -/

theorem lookup_insert_same (A : List (Str × Str)) (n v : Str) : lookup (aliasInsert A n v) n = some v := by
  simp [lookup, aliasInsert]

theorem pred_eq (n m : Str) (h : m ≠ n) :
    (fun (a : Str × Str) => !decide (a.1 = n) && decide (a.1 = m)) = (fun p => decide (p.1 = m)) := by
  funext a
  by_cases ha : a.1 = m
  · simp [ha, h]
  · simp [ha]

theorem lookup_filter_ne (A : List (Str × Str)) (n m : Str) (h : m ≠ n) :
    lookup (A.filter (fun p => p.1 ≠ n)) m = lookup A m := by
  unfold lookup
  rw [List.find?_filter]
  simp only [ne_eq, decide_not, Bool.decide_and, Bool.decide_eq_true]
  rw [pred_eq n m h]

theorem lookup_insert_other (A : List (Str × Str)) (n v m : Str) (h : m ≠ n) :
    lookup (aliasInsert A n v) m = lookup A m := by
  have hnm : ¬ n = m := fun e => h e.symm
  have := lookup_filter_ne A n m h
  simp only [lookup, aliasInsert, List.find?, hnm, decide_false] at this ⊢
  exact this

theorem lookup_remove_same (A : List (Str × Str)) (n : Str) : lookup (aliasRemove A n) n = none := by
  simp [lookup, aliasRemove, List.find?_eq_none]

theorem lookup_remove_other (A : List (Str × Str)) (n m : Str) (h : m ≠ n) :
    lookup (aliasRemove A n) m = lookup A m := lookup_filter_ne A n m h

def keys (L : List (Str × Str)) : List Str := L.map (·.1)

theorem lookup_eq_some_iff (L : List (Str × Str)) (hnd : (keys L).Nodup) (m v : Str) :
    lookup L m = some v ↔ (m, v) ∈ L := by
  constructor
  · intro h
    simp only [lookup, Option.map_eq_some_iff] at h
    obtain ⟨p, hp, rfl⟩ := h
    have h2 := List.find?_some hp
    simp only [decide_eq_true_eq] at h2
    subst h2
    exact List.mem_of_find?_eq_some hp
  · intro h
    induction L with
    | nil => simp at h
    | cons p rest ih =>
      simp only [keys, List.map_cons, List.nodup_cons] at hnd
      by_cases hp : p.1 = m
      · rcases List.mem_cons.mp h with h | h
        · subst h; simp [lookup]
        · exact absurd (List.mem_map.mpr ⟨(m, v), h, hp.symm⟩) hnd.1
      · rcases List.mem_cons.mp h with h | h
        · subst h; exact absurd rfl hp
        · have := ih hnd.2 h
          simp only [lookup, List.find?, hp, decide_false] at this ⊢
          exact this

theorem lookup_congr (L1 L2 : List (Str × Str)) (h1 : (keys L1).Nodup) (h2 : (keys L2).Nodup)
    (h : ∀ p, p ∈ L1 ↔ p ∈ L2) (m : Str) : lookup L1 m = lookup L2 m :=
  Option.ext fun v => by rw [lookup_eq_some_iff L1 h1, lookup_eq_some_iff L2 h2, h]

/-- `unalias n` removes exactly n -/
theorem C17_unalias (A : List (Str × Str)) (n : Str) (t0 : Tok) (sep : Str) (h : (lookup A n).isSome = true) :
    (∀ m, m ≠ n → lookup (unaliasBuiltin A [t0, (sep, n)]).1 m = lookup A m) ∧
    lookup (unaliasBuiltin A [t0, (sep, n)]).1 n = none := by
  simp only [unaliasBuiltin, h, ↓reduceIte]
  exact ⟨fun m hm => lookup_remove_other A n m hm, lookup_remove_same A n⟩

/-! ### finding: the word after `xargs` is expanded (KF-C17-xargs) -/

def wEnv : Env := { aliases := [("ls".toList, "ls -l".toList)] }

theorem C17_finding_xargs :
    expandAlias wEnv [([], "xargs".toList), ([], "ls".toList)] = [([], "xargs".toList), ([], "ls".toList), ([], "-l".toList)] := by
  decide +kernel

example : guard [[([], "ls".toList), ([], "a".toList)], [(['\''], "ls".toList)], [([], "wc".toList)]] = true := by decide +kernel

example : expandAlias wEnv [([], "ls".toList), ([], "ls".toList)] = [([], "ls".toList), ([], "-l".toList), ([], "ls".toList)] := by decide +kernel

end Cicada.C17
