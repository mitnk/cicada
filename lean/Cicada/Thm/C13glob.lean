import Cicada.Thm.C13more
import Cicada.Thm.C12glob
import Cicada.Lemmas.C01Esc
/-!
# C13 — filename expansion as a delivery: `prog PATTERN`

The words a pattern stands for are *data* handed to the program.  In the model (`doExpansion`) filename expansion
(`expandGlob`) runs in the middle of the passes: alias, `~`, `$NAME`, brace lists come before it; the two command
substitution passes and the numeric brace range come after it and read the produced words again; then planning
(`planOfTokens`) looks for `&`, `|`, `<`, `>` in every *untagged* token.  A produced word is tagged `"` exactly when it
holds a blank (`tagBlank`), so

* every produced word is read again by the backquote pass and the `$(…)` pass (both act on `"`-tagged and on untagged
  tokens);
* a produced word without a blank is in addition read by the range pass and by planning.

`inertName` is the class of names on which none of these acts (stated with the model's own gates, so it is tight:
a name outside it is acted upon); `safeName` is the character-level class the driver's `c13g` stream uses as guard.

* `C13_glob_inert` : plain program word, pattern token the earlier passes leave alone (`patOk`), every visible match
  `inertName`, the last one not `&` : `doExpansion` yields the program word followed by the visible matches, ONE token
  each, and the plan is one plain foreground stage (no redirection, no stdin source, no environment) whose token texts
  are exactly `p :: matches`.
* `C13_glob_safe` : the same under the driver's guard (`safeName`, `patSimple`).
* `C13_glob_safe_spec` : the same in the vocabulary of the specs (`C12.globSpec`, `shapeOf`, `plainShape`).
* `C13_finding_*` : computed witnesses against the property, for names outside the class (`filename-reread`).
-/
namespace Cicada.C13
open Cicada Cicada.PassLemmas Cicada.TokLemmas

/-- the visible matches of `pat`: what `C12.globWords` (= the model's `globToken`) makes of the matcher's answer;
the pattern itself when nothing visible matches -/
def globMatches (e : Env) (pat : Str) : List Str := C12.globWords ((e.glob pat).getD []) pat

/-- the pattern token reaches filename expansion as it is, and is a pattern there: it holds `*`; the `~`, `$NAME`
and brace-list passes leave it alone (the model's own gates); it does not look quoted to `expand_glob`; the matcher
accepts it; and the line is not `export PROMPT=…` (which `do_expansion` does not expand at all) -/
def patOk (e : Env) (p pat : Str) : Bool :=
  pat.contains '*' && pat.head? ≠ some '~' && !envInToken pat && !needExpandBrace pat &&
  (trim pat).head? ≠ some '\'' && (trim pat).head? ≠ some '"' &&
  !(p = "export".toList && startsWith pat "PROMPT=".toList) && (e.glob pat).isSome

/-- an easy-to-read sufficient condition for the part of `patOk` that concerns the earlier passes:
no `$`, no `{`, no quote character, no leading `~` -/
def patSimple (pat : Str) : Bool :=
  pat.contains '*' && pat.head? ≠ some '~' && pat.all (fun c => c ≠ '$' && c ≠ '{' && c ≠ '\'' && c ≠ '"')

/-- a name no pass after filename expansion and no planning step gives a meaning to.
For every name: it holds no backquote pair and no `$(…)` (the gates of the two substitution passes).
For a name without a blank (its token is untagged) in addition: it is not the word `|`, does not start with `<`,
holds no `>`, and holds no numeric range `{m..n}`.  (`&` matters only in last position: see `lastNotAmp`.) -/
def inertName (m : Str) : Bool :=
  (matchBackquote m).isNone && !shouldDoDollar m &&
  (m.contains ' ' || (m ≠ ['|'] && m.head? ≠ some '<' && !m.contains '>' && (findRange m).isNone))

/-- the last produced word is not `&` (an untagged last token `&` makes the command a background job) -/
def lastNotAmp (ms : List Str) : Bool := ms.getLast? ≠ some ['&']

/-- the driver's guard (`c13g` stream): none of `>` `<` `|` backquote `{` occurs, `$(` does not occur, and the name
is not `&`.  Names with blanks, `;`, `#`, `=`, `~`, `*`, quotes, a `$` not followed by `(`, … are inside.
It is stronger than needed: `<` inside a name, `|` / `&` inside a longer name, a lone backquote, a `$(` that is never
closed, a `{` that opens no numeric range, and every one of `> < | {` in a name with a blank are harmless
(`inertName`). -/
def safeName (m : Str) : Bool :=
  !(m.any (fun c => c = '>' || c = '<' || c = '|' || c = '`' || c = '{')) && !containsSub m ['$', '('] && m ≠ ['&']

/-- guard of `C13_glob_inert`: stated with the model's own gates, so that a name outside it is acted upon -/
def guardInert (e : Env) (p pat : Str) : Bool :=
  C01.plainWord p && (lookup e.aliases p).isNone && p ≠ "xargs".toList && patOk e p pat &&
  (globMatches e pat).all inertName && lastNotAmp (globMatches e pat)

/-- guard of `C13_glob_safe` (what the driver checks, plus the conditions on the program word and the pattern) -/
def guardSafe (e : Env) (p pat : Str) : Bool :=
  C01.plainWord p && (lookup e.aliases p).isNone && p ≠ "xargs".toList && patSimple pat && (e.glob pat).isSome &&
  !(p = "export".toList && startsWith pat "PROMPT=".toList) &&
  (globMatches e pat).all safeName

/-- the plan the property asks for: one plain foreground stage with the given tokens -/
def plainPlan (ts : List Tok) : Plan :=
  { commands := [{ tokens := ts, redirectsTo := [], redirectFrom := none }], envs := [], background := false }

theorem tagBlank_cases (m : Str) :
    (m.contains ' ' = true ∧ tagBlank m = (['"'], m)) ∨ (m.contains ' ' = false ∧ tagBlank m = ([], m)) := by
  unfold tagBlank
  cases h : m.contains ' ' <;> simp

theorem inertName_facts (m : Str) (h : inertName m = true) :
    matchBackquote m = none ∧ shouldDoDollar m = false ∧
    (m.contains ' ' = true ∨ (m ≠ ['|'] ∧ m.head? ≠ some '<' ∧ (∀ c ∈ m, c ≠ '>') ∧ findRange m = none)) := by
  simp only [inertName, Bool.and_eq_true, Option.isNone_iff_eq_none, Bool.not_eq_true', Bool.or_eq_true,
    decide_eq_true_eq] at h
  obtain ⟨⟨h1, h2⟩, h3⟩ := h
  refine ⟨h1, h2, ?_⟩
  rcases h3 with h3 | ⟨⟨⟨a, b⟩, c⟩, d⟩
  · exact Or.inl h3
  · refine Or.inr ⟨a, b, ?_, d⟩
    intro x hx e; subst e
    simp at c; exact c hx

theorem safe_inert (m : Str) (h : safeName m = true) : inertName m = true ∧ m ≠ ['&'] := by
  simp only [safeName, Bool.and_eq_true, Bool.not_eq_true', List.any_eq_false, Bool.or_eq_true, decide_eq_true_eq,
    not_or] at h
  obtain ⟨⟨h1, h2⟩, h3⟩ := h
  have nb : ∀ c ∈ m, c ≠ '`' := fun c hc => (h1 c hc).1.2
  have nbr : ∀ c ∈ m, c ≠ '{' := fun c hc => (h1 c hc).2
  have hm := matchBackquote_none m nb
  have hd : shouldDoDollar m = false := by simp [shouldDoDollar, C10.ndp_reDollarParen m (C10.ndp_of_noSub m h2)]
  have hr := findRange_none m nbr
  have hp : m ≠ ['|'] := by intro e; subst e; exact (h1 '|' (by simp)).1.1.2 rfl
  have hl : m.head? ≠ some '<' := fun e => (h1 '<' (List.mem_of_mem_head? e)).1.1.1.2 rfl
  have hg : ¬ ('>' ∈ m) := fun e => (h1 '>' e).1.1.1.1 rfl
  refine ⟨?_, h3⟩
  simp [inertName, hm, hd, hr, hp, hl, hg]

theorem patSimple_facts (pat : Str) (h : patSimple pat = true) :
    pat.contains '*' = true ∧ pat.head? ≠ some '~' ∧ envInToken pat = false ∧ needExpandBrace pat = false ∧
    (trim pat).head? ≠ some '\'' ∧ (trim pat).head? ≠ some '"' := by
  simp only [patSimple, Bool.and_eq_true, decide_eq_true_eq, List.all_eq_true] at h
  obtain ⟨⟨h1, h2⟩, h3⟩ := h
  have nd : ∀ c ∈ pat, c ≠ '$' := fun c hc => (h3 c hc).1.1.1
  have nb : ∀ c ∈ pat, c ≠ '{' := fun c hc => (h3 c hc).1.1.2
  have sub : ∀ c, (trim pat).head? = some c → c ∈ pat := by
    intro c hc
    have hmem : c ∈ trim pat := List.mem_of_mem_head? hc
    have h1 : ∀ (l : Str) x, x ∈ trimL l → x ∈ l := by
      intro l x
      induction l with
      | nil => simp [trimL]
      | cons d ds ih =>
        intro hx
        unfold trimL at hx
        split at hx
        · exact List.mem_cons_of_mem _ (ih hx)
        · exact hx
    have h2 : ∀ (l : Str) x, x ∈ trimR l → x ∈ l := by
      intro l x hx
      unfold trimR at hx
      exact List.mem_reverse.mp (h1 _ _ (List.mem_reverse.mp hx))
    exact h1 _ _ (h2 _ _ hmem)
  refine ⟨h1, h2, envInToken_false pat nd, needExpandBrace_false pat nb, ?_, ?_⟩
  · intro e; exact (h3 _ (sub _ e)).1.2 rfl
  · intro e; exact (h3 _ (sub _ e)).2 rfl

/-- filename expansion of the pattern token -/
theorem expandGlobGo_pattern (e : Env) (pat : Str) (hc : pat.contains '*' = true)
    (hq1 : (trim pat).head? ≠ some '\'') (hq2 : (trim pat).head? ≠ some '"') (hs : (e.glob pat).isSome = true) :
    expandGlobGo e [([], pat)] = some ((globMatches e pat).map tagBlank) := by
  have hok : C12.globOk e ([], pat) = true := by
    simp [C12.globOk, hs, hq1, hq2]
  simp [expandGlobGo, C12.globToken_pattern e pat hc hok, globMatches]

/-- **C13, filename expansion is a delivery (tight guard).**  `prog PATTERN`, the program word plain (not an alias,
not `xargs`), the pattern token left alone by the passes before filename expansion (`patOk`), every visible match an
`inertName`, the last one not `&`: the expansion is the program word followed by the visible matches, one token each
(tagged `"` when the name holds a blank), and the plan is one plain foreground stage — no redirection, no stdin
source, no environment — whose token texts are exactly `p :: matches`.  (Fuel: one unit per produced word for the walk
of a substitution pass, and the two of `doExpansion_prog`.) -/
theorem C13_glob_inert (se : SubstEnv) (p pat : Str) (f : Nat)
    (hg : guardInert se.env p pat = true) (hf : (globMatches se.env pat).length + 3 < f) :
    doExpansion se f [([], p), ([], pat)] = .ok (([], p) :: (globMatches se.env pat).map tagBlank) ∧
    planOfTokens (([], p) :: (globMatches se.env pat).map tagBlank) =
      .ok (plainPlan (([], p) :: (globMatches se.env pat).map tagBlank)) ∧
    (([], p) :: (globMatches se.env pat).map tagBlank).map (·.2) = p :: globMatches se.env pat := by
  simp only [guardInert, patOk, Bool.and_eq_true, decide_eq_true_eq, Bool.not_eq_true', List.all_eq_true,
    Option.isNone_iff_eq_none, lastNotAmp] at hg
  obtain ⟨⟨⟨⟨⟨hpw, hal⟩, hx⟩, ⟨⟨⟨⟨⟨⟨⟨hstar, htil⟩, henvg⟩, hbr⟩, hq1⟩, hq2⟩, hexp⟩, hsome⟩⟩, hin⟩, hlast⟩ := hg
  obtain ⟨hw, hl⟩ := C01.plainWord_facts p hpw
  -- from here on the matches are an opaque list `ms` (keeps `simp` from unfolding `globMatches`)
  generalize hms : globMatches se.env pat = ms at *
  have hstar' : '*' ∈ pat := by simpa using hstar
  -- a produced token holds no substitution; it is tagged `"`, or untagged and without meaning for range and planning
  have hfacts : ∀ t ∈ ms.map tagBlank, (matchBackquote t.2 = none ∧ shouldDoDollar t.2 = false) ∧
      (t.1 = ['"'] ∨ (t.1 = [] ∧ t.2 ≠ ['|'] ∧ t.2.head? ≠ some '<' ∧ (∀ c ∈ t.2, c ≠ '>') ∧ findRange t.2 = none)) := by
    intro t ht
    obtain ⟨m, hm, rfl⟩ := List.mem_map.mp ht
    obtain ⟨h1, h2, h3⟩ := inertName_facts m (hin m hm)
    rcases tagBlank_cases m with ⟨_, e⟩ | ⟨hb, e⟩ <;> rw [e]
    · exact ⟨⟨h1, h2⟩, Or.inl rfl⟩
    · exact ⟨⟨h1, h2⟩, Or.inr ⟨rfl, h3.resolve_left (by rw [hb]; exact Bool.false_ne_true)⟩⟩
  have hns : ∀ t ∈ ms.map tagBlank, NoSubst t := fun t ht =>
    Or.inr ⟨(hfacts t ht).2.imp id (fun h => h.1), (hfacts t ht).1⟩
  have hrange : ∀ t ∈ ms.map tagBlank, t.1 ≠ [] ∨ findRange t.2 = none := fun t ht =>
    (hfacts t ht).2.imp (fun h => by simp [h]) (fun h => h.2.2.2.2)
  have harg : ∀ t ∈ ms.map tagBlank, C01.ArgTok' t := fun t ht =>
    (hfacts t ht).2.imp (fun h => by simp [h]) (fun h => ⟨h.2.1, h.2.2.1, h.2.2.2.1⟩)
  have hamp : (ms.map tagBlank).getLast? ≠ some ([], ['&']) := by
    intro e
    rw [List.getLast?_map] at e
    cases hml : ms.getLast? with
    | none => rw [hml] at e; simp at e
    | some m =>
      rw [hml] at e
      simp only [Option.map_some, Option.some.injEq] at e
      have : m = ['&'] := by
        have := congrArg Prod.snd e
        simpa [tagBlank] using this
      rw [this] at hml
      exact hlast hml
  refine ⟨?_, ?_, ?_⟩
  · -- the expansion: only filename expansion acts on the pattern token
    have hglob := expandGlobGo_pattern se.env pat hstar hq1 hq2 hsome
    rw [hms] at hglob
    refine doExpansion_prog_noSubst se p [([], pat)] [([], pat)] _ f hw hl hal hx ?_ (expandAliasGo_false_of _ _ ?_)
      ?_ ?_ ?_ hglob hns hrange (by simp only [List.length_map]; omega)
    · intro t ht h2 h3
      obtain rfl : ([], pat) = t := by simpa using ht
      simp only [h2, decide_true, Bool.true_and] at hexp
      exact Bool.noConfusion ((show startsWith pat _ = true from h3).symm.trans hexp)
    · intro t ht ⟨_, e⟩
      obtain rfl : t = ([], pat) := by simpa using ht
      simp only at e; rw [e] at hstar'; simp at hstar'
    · intro t ht
      obtain rfl : t = ([], pat) := by simpa using ht
      exact Or.inr htil
    · simp [expandEnv, henvg]
    · intro t ht
      obtain rfl : t = ([], pat) := by simpa using ht
      exact Or.inr hbr
  · -- the plan
    have := C01.planOfTokens_G p (ms.map tagBlank) .alone (word_no p hw '=' (by decide)) (C01.word_argTok' p hw) harg
      (fun _ => hamp)
    simpa [C01.pipeToks, C01.stage, plainPlan] using this
  · simp [List.map_map, Function.comp_def, tagBlank]

/-- **C13, filename expansion is a delivery (the driver's guard).**  The same conclusion for every pattern without
`$`, `{`, quote characters and a leading `~`, when every visible match is a `safeName`. -/
theorem C13_glob_safe (se : SubstEnv) (p pat : Str) (f : Nat)
    (hg : guardSafe se.env p pat = true) (hf : (globMatches se.env pat).length + 3 < f) :
    doExpansion se f [([], p), ([], pat)] = .ok (([], p) :: (globMatches se.env pat).map tagBlank) ∧
    planOfTokens (([], p) :: (globMatches se.env pat).map tagBlank) =
      .ok (plainPlan (([], p) :: (globMatches se.env pat).map tagBlank)) ∧
    (([], p) :: (globMatches se.env pat).map tagBlank).map (·.2) = p :: globMatches se.env pat := by
  apply C13_glob_inert se p pat f _ hf
  simp only [guardSafe, Bool.and_eq_true, List.all_eq_true] at hg
  obtain ⟨⟨⟨⟨⟨⟨hpw, hal⟩, hx⟩, hps⟩, hsome⟩, hexp⟩, hsafe⟩ := hg
  obtain ⟨a1, a2, a3, a4, a5, a6⟩ := patSimple_facts pat hps
  have hin : ∀ m ∈ globMatches se.env pat, inertName m = true := fun m hm => (safe_inert m (hsafe m hm)).1
  have hlast : lastNotAmp (globMatches se.env pat) = true := by
    simp only [lastNotAmp, decide_eq_true_eq]
    intro e
    exact (safe_inert _ (hsafe _ (List.mem_of_getLast? e))).2 rfl
  simp only [guardInert, patOk, Bool.and_eq_true, List.all_eq_true]
  refine ⟨⟨⟨⟨⟨hpw, hal⟩, hx⟩, ?_⟩, hin⟩, hlast⟩
  refine ⟨⟨⟨⟨⟨⟨⟨a1, by simpa using a2⟩, by simp [a3]⟩, by simp [a4]⟩, by simpa using a5⟩, by simpa using a6⟩, hexp⟩, hsome⟩

/-- in the vocabulary of the specs: the expansion of `prog PATTERN` is the reference filename expansion `C12.globSpec`
of the two tokens, and the plan has the shape of a plain command (`plainShape`) -/
theorem C13_glob_safe_spec (se : SubstEnv) (p pat : Str) (f : Nat)
    (hg : guardSafe se.env p pat = true) (hf : (globMatches se.env pat).length + 3 < f) :
    doExpansion se f [([], p), ([], pat)] = .ok (C12.globSpec se.env.glob [([], p), ([], pat)]) ∧
    ∃ plan, planOfTokens (C12.globSpec se.env.glob [([], p), ([], pat)]) = .ok plan ∧ shapeOf plan = plainShape ∧
      (plan.commands.map (fun c => c.tokens.map (·.2))) = [p :: globMatches se.env pat] := by
  obtain ⟨h1, h2, h3⟩ := C13_glob_safe se p pat f hg hf
  simp only [guardSafe, Bool.and_eq_true] at hg
  obtain ⟨hw, _⟩ := C01.plainWord_facts p hg.1.1.1.1.1.1
  have hstar := (patSimple_facts pat hg.1.1.1.2).1
  have hstar' : '*' ∈ pat := by simpa using hstar
  have hp : ¬ ('*' ∈ p) := fun hm => word_no p hw '*' (by decide) '*' hm rfl
  have e : C12.globSpec se.env.glob [([], p), ([], pat)] = ([], p) :: (globMatches se.env pat).map tagBlank := by
    simp [C12.globSpec, hp, hstar', globMatches]
  rw [e]
  exact ⟨h1, _, h2, rfl, by simpa [plainPlan] using h3⟩

/-! ## non-vacuity -/

/-- a world for the examples: the matcher answers the pattern `g*` with `names` (nothing else matches anything);
every inner command prints `OUT` -/
def gEnv (names : List Str) : SubstEnv :=
  { env := { glob := fun pat => if pat = "g*".toList then some names else some [] }, cmdOut := fun _ => "OUT".toList }

def progPat : List Tok := [([], "prog".toList), ([], "g*".toList)]

/-- several names, one with a blank, one hidden (dropped), one with `;`, `#`, `=`, `~`, `*`, a `$` and quotes -/
def okNames : List Str := ["g p".toList, "g1".toList, ".ghidden".toList, "g;#=~*$x'\"".toList, "g&".toList]

example : guardSafe (gEnv okNames).env "prog".toList "g*".toList = true := by decide +kernel
example : globMatches (gEnv okNames).env "g*".toList = ["g p".toList, "g1".toList, "g;#=~*$x'\"".toList, "g&".toList] := by decide +kernel
example : doExpansion (gEnv okNames) 8 progPat =
    .ok [([], "prog".toList), (['"'], "g p".toList), ([], "g1".toList), ([], "g;#=~*$x'\"".toList), ([], "g&".toList)] := by
  decide +kernel
/-- nothing matches: the pattern itself is the argument -/
example : guardSafe (gEnv []).env "prog".toList "g*".toList = true ∧ globMatches (gEnv []).env "g*".toList = ["g*".toList] := by decide +kernel

/-- `inertName` is strictly wider than `safeName`: `|` `&` `<` inside a longer name, `&` not in last position, a lone
backquote, an unclosed `$(`, a brace list, and every operator character in a name with a blank -/
def inertNames : List Str :=
  ["a|b".toList, "g<x".toList, "&".toList, "g`id".toList, "g$(id".toList, "g{a,b}".toList, "g >x".toList, "g |".toList,
   "g {1..3}".toList, "g&&".toList]
example : guardInert (gEnv inertNames).env "prog".toList "g*".toList = true ∧ inertNames.all safeName = false := by decide +kernel
example : (doExpansion (gEnv inertNames) 14 progPat).map (fun ts => ts.map (·.2)) = .ok ("prog".toList :: inertNames) := by
  decide +kernel

/-! ## findings: names outside the class (`filename-reread`), computed witnesses

Each witness gives the names the matcher returns for `prog g*`, shows that the guard rejects them, and shows what the
model does instead of handing the names over. -/

/-- a directory entry `g>x`: the plan carries the redirection `> x` and the program receives `g` -/
theorem C13_finding_filename_redirect :
    guardInert (gEnv ["g>x".toList]).env "prog".toList "g*".toList = false ∧
    doExpansion (gEnv ["g>x".toList]) 8 progPat = .ok [([], "prog".toList), ([], "g>x".toList)] ∧
    planOfTokens [([], "prog".toList), ([], "g>x".toList)] =
      .ok { commands := [{ tokens := [([], "prog".toList), ([], ['g'])], redirectsTo := [(['1'], ['>'], ['x'])],
                           redirectFrom := none }], envs := [], background := false } :=
  ⟨by decide +kernel, by decide +kernel, by decide +kernel⟩

/-- a directory entry `g>` as the last match: the line is rejected (`redirection syntax error`) -/
theorem C13_finding_filename_redirect_error :
    guardInert (gEnv ["g>".toList]).env "prog".toList "g*".toList = false ∧
    doExpansion (gEnv ["g>".toList]) 8 progPat = .ok [([], "prog".toList), ([], "g>".toList)] ∧
    planOfTokens [([], "prog".toList), ([], "g>".toList)] = .error "redirection syntax error" :=
  ⟨by decide +kernel, by decide +kernel, by decide +kernel⟩

/-- a match `<x` (a name starting with `<`): it becomes the stdin source of the command -/
theorem C13_finding_filename_stdin :
    guardInert (gEnv ["g1".toList, "<x".toList]).env "prog".toList "g*".toList = false ∧
    doExpansion (gEnv ["g1".toList, "<x".toList]) 8 progPat = .ok [([], "prog".toList), ([], "g1".toList), ([], "<x".toList)] ∧
    planOfTokens [([], "prog".toList), ([], "g1".toList), ([], "<x".toList)] =
      .ok { commands := [{ tokens := [([], "prog".toList), ([], "g1".toList)], redirectsTo := [],
                           redirectFrom := some (['<'], ['x']) }], envs := [], background := false } :=
  ⟨by decide +kernel, by decide +kernel, by decide +kernel⟩

/-- a match named `&` in last position: the command becomes a background job and loses the argument -/
theorem C13_finding_filename_background :
    guardInert (gEnv ["g1".toList, "&".toList]).env "prog".toList "g*".toList = false ∧
    doExpansion (gEnv ["g1".toList, "&".toList]) 8 progPat = .ok [([], "prog".toList), ([], "g1".toList), ([], "&".toList)] ∧
    planOfTokens [([], "prog".toList), ([], "g1".toList), ([], "&".toList)] =
      .ok { commands := [{ tokens := [([], "prog".toList), ([], "g1".toList)], redirectsTo := [], redirectFrom := none }],
            envs := [], background := true } :=
  ⟨by decide +kernel, by decide +kernel, by decide +kernel⟩

/-- a match named `|`: the names after it are run as a second pipeline stage -/
theorem C13_finding_filename_pipe :
    guardInert (gEnv ["g1".toList, "|".toList, "g2".toList]).env "prog".toList "g*".toList = false ∧
    doExpansion (gEnv ["g1".toList, "|".toList, "g2".toList]) 8 progPat =
      .ok [([], "prog".toList), ([], "g1".toList), ([], "|".toList), ([], "g2".toList)] ∧
    planOfTokens [([], "prog".toList), ([], "g1".toList), ([], "|".toList), ([], "g2".toList)] =
      .ok { commands := [{ tokens := [([], "prog".toList), ([], "g1".toList)], redirectsTo := [], redirectFrom := none },
                         { tokens := [([], "g2".toList)], redirectsTo := [], redirectFrom := none }],
            envs := [], background := false } :=
  ⟨by decide +kernel, by decide +kernel, by decide +kernel⟩

/-- a name holding a backquote pair: the text between the backquotes is RUN and its output spliced into the
argument (with or without a blank in the name) -/
theorem C13_finding_filename_backquote :
    guardInert (gEnv ["g`id`".toList, "g `id`".toList]).env "prog".toList "g*".toList = false ∧
    doExpansion (gEnv ["g`id`".toList, "g `id`".toList]) 20 progPat =
      .ok [([], "prog".toList), ([], "gOUT".toList), (['"'], "g OUT".toList)] :=
  ⟨by decide +kernel, by decide +kernel⟩

/-- a name holding `$(…)`: the inner text is RUN and its output spliced into the argument -/
theorem C13_finding_filename_dollar_paren :
    guardInert (gEnv ["g$(id)".toList, "g $(id)".toList]).env "prog".toList "g*".toList = false ∧
    doExpansion (gEnv ["g$(id)".toList, "g $(id)".toList]) 20 progPat =
      .ok [([], "prog".toList), ([], "gOUT".toList), (['"'], "g OUT".toList)] :=
  ⟨by decide +kernel, by decide +kernel⟩

/-- a name holding a numeric range `{1..3}` (no blank): it is expanded again, the program receives three words -/
theorem C13_finding_filename_range :
    guardInert (gEnv ["g{1..3}".toList]).env "prog".toList "g*".toList = false ∧
    doExpansion (gEnv ["g{1..3}".toList]) 8 progPat =
      .ok [([], "prog".toList), ([], "g1".toList), ([], "g2".toList), ([], "g3".toList)] :=
  ⟨by decide +kernel, by decide +kernel⟩

/-- outside `patOk`: `export PROMPT=*` is not expanded at all (the early return of `do_expansion`) -/
theorem C13_note_export_prompt (names : List Str) :
    doExpansion (gEnv names) 8 [([], "export".toList), ([], "PROMPT=*".toList)] =
      .ok [([], "export".toList), ([], "PROMPT=*".toList)] := by
  rfl

#print axioms C13_glob_inert
#print axioms C13_glob_safe
#print axioms C13_glob_safe_spec
#print axioms C13_finding_filename_redirect
#print axioms C13_finding_filename_backquote
#print axioms C13_finding_filename_dollar_paren
#print axioms C13_finding_filename_range

end Cicada.C13
