import Cicada.Lemmas.KernelChild
import Cicada.Spec.Fd
import Cicada.Lemmas.Redir
/-!
# C04 — redirections connect exactly the named descriptors to the named files

Reference: `Spec/Fd.lean` (`applyRedirs`: the left-to-right meaning of a redirection list over the three slots
0 / 1 / 2).  Model: the child's loop over `redirects_to` (`Pipeline.redirLoop`, core.rs:413-470) with its
`dup` / `dup2` / `open` calls on numbered descriptors, and the builtin path `getStdFds` / `builtinPrint`.

* `C04_redirs_external` : outside a command substitution (`capture = false`; see the first finding below), for EVERY
  redirection list and every table with 0, 1, 2 open, when the child's loop runs to
  the end (no descriptor exhaustion) the reference semantics accepts the list too, descriptors 0, 1, 2 point to exactly
  the objects the reference semantics assigns to the three slots, and the same files were opened in the same order
  (so truncation / append / creation agree).  Holds for first, middle and last stages (`notLast` arbitrary).
* `C04_unopenable_not_run` : when the reference semantics refuses the list (a target cannot be opened) the child's loop
  stops with `process::exit(1)`: the program is not run.
* `C04_parse` : for EVERY sequence of ordinary arguments and redirections in any accepted spelling (attached `n>f` or
  spaced `n> f`, prefix none / 1 / 2, truncate or append, `n>&1` / `n>&2`), in any order, `tokens_to_redirections`
  returns exactly the intended triples in order and leaves the other tokens untouched (`Lemmas/Redir.lean`).
* the builtin path (`C04_builtin_target`) and the child's `<` / `<<<` (`C04_stdin`, `C04_stdin_unreadable`) are in
  `Thm/C04b.lean`.
* open findings (kernel-checked witnesses below): inside a command substitution `2>&1` / `1>&2` on the last stage are
  ignored (`KF-C04-capture-dup`); a builtin whose target cannot be opened prints to the original stream and reports
  status 0 (`KF-C04-builtin-unopenable`).
-/
namespace Cicada.C04
open Cicada.Kernel Cicada.Kernel.Table Cicada.Pipeline Cicada.SpecFd

/-- descriptors 0, 1, 2 of the table point to the objects of the three slots -/
structure Rel (t : Table) (sl : Slots) : Prop where
  r0 : (t 0).map (·.obj) = sl.s0.map (·.obj)
  r1 : (t 1).map (·.obj) = sl.s1.map (·.obj)
  r2 : (t 2).map (·.obj) = sl.s2.map (·.obj)

structure Std3 (t : Table) : Prop where
  o0 : (t 0).isSome
  o1 : (t 1).isSome
  o2 : (t 2).isSome

theorem onto_of_val {t t' : Table} (h : Std3 t) {dst : Nat} {e : Ent} (hd : dst < 3)
    (hval : ∀ x, x < 3 → t' x = if x = dst then some e else t x) :
    Std3 t' ∧ (t' dst).map (·.obj) = some e.obj ∧ ∀ x, x < 3 → x ≠ dst → t' x = t x := by
  refine ⟨⟨?_, ?_, ?_⟩, ?_, ?_⟩
  · rw [hval 0 (by omega)]; split <;> simp [h.o0]
  · rw [hval 1 (by omega)]; split <;> simp [h.o1]
  · rw [hval 2 (by omega)]; split <;> simp [h.o2]
  · rw [hval dst hd]; simp
  · intro x hx hxd; rw [hval x hx]; simp [hxd]

theorem temp_onto {t t1 t' : Table} (h : Std3 t) {lim fd dst : Nat} {e : Ent} (ha : t.alloc lim e = some (t1, fd))
    (hd : dst < 3) (ht' : t' = t1.dup2 fd dst ∨ t' = (t1.dup2 fd dst).close fd) :
    Std3 t' ∧ (t' dst).map (·.obj) = some e.obj ∧ ∀ x, x < 3 → x ≠ dst → t' x = t x := by
  have h3 := alloc_ge3 h.o0 h.o1 h.o2 ha
  obtain ⟨_, rfl⟩ := alloc_spec ha
  refine onto_of_val (e := { e with cx := false }) h hd (fun x hx => ?_)
  have hxf : x ≠ fd := by omega
  have : t' x = ((t.set fd e).dup2 fd dst) x := by
    rcases ht' with rfl | rfl
    · rfl
    · exact if_neg hxf
  rw [this, set_dup2_apply t e (by omega) hxf]

theorem applyRedirs_errToOut (cfg : Cfg) (sl : Slots) {from_ to : Str} (op : Str) (rest : List Redir)
    (h : to = "&1".toList ∧ from_ = "2".toList) :
    applyRedirs cfg sl ((from_, op, to) :: rest) = applyRedirs cfg { sl with s2 := sl.s1 } rest := by
  rw [applyRedirs, if_pos h]

theorem applyRedirs_outToErr (cfg : Cfg) (sl : Slots) {from_ to : Str} (op : Str) (rest : List Redir)
    (h1 : ¬ (to = "&1".toList ∧ from_ = "2".toList)) (h2 : to = "&2".toList ∧ from_ = "1".toList) :
    applyRedirs cfg sl ((from_, op, to) :: rest) = applyRedirs cfg { sl with s1 := sl.s2 } rest := by
  rw [applyRedirs, if_neg h1, if_pos h2]

theorem applyRedirs_refused (cfg : Cfg) (sl : Slots) {from_ to : Str} (op : Str) (rest : List Redir)
    (h1 : ¬ (to = "&1".toList ∧ from_ = "2".toList)) (h2 : ¬ (to = "&2".toList ∧ from_ = "1".toList))
    (hw : cfg.canWrite to = false) :
    applyRedirs cfg sl ((from_, op, to) :: rest) = (sl, false) := by
  rw [applyRedirs, if_neg h1, if_neg h2, hw]
  rfl

theorem applyRedirs_file (cfg : Cfg) (sl : Slots) {from_ to : Str} (op : Str) (rest : List Redir)
    (h1 : ¬ (to = "&1".toList ∧ from_ = "2".toList)) (h2 : ¬ (to = "&2".toList ∧ from_ = "1".toList))
    (hw : cfg.canWrite to = true) :
    applyRedirs cfg sl ((from_, op, to) :: rest) =
      applyRedirs cfg
        { (if from_ = "1".toList then { sl with s1 := some { obj := .file to (if op = ">>".toList then 2 else 1) } }
           else { sl with s2 := some { obj := .file to (if op = ">>".toList then 2 else 1) } }) with
          opened := sl.opened ++ [(to, if op = ">>".toList then 2 else 1)] } rest := by
  rw [applyRedirs, if_neg h1, if_neg h2, hw]
  rfl

theorem applyRedirs_cons (cfg : Cfg) (sl : Slots) (r : Redir) (rs : List Redir) :
    applyRedirs cfg sl (r :: rs) =
      (match applyRedirs cfg sl [r] with
       | (sl', true) => applyRedirs cfg sl' rs
       | (sl', false) => (sl', false)) := by
  obtain ⟨from_, op, to⟩ := r
  by_cases h1 : to = "&1".toList ∧ from_ = "2".toList
  · rw [applyRedirs_errToOut cfg sl op rs h1, applyRedirs_errToOut cfg sl op [] h1]
    rfl
  · by_cases h2 : to = "&2".toList ∧ from_ = "1".toList
    · rw [applyRedirs_outToErr cfg sl op rs h1 h2, applyRedirs_outToErr cfg sl op [] h1 h2]
      rfl
    · cases hw : cfg.canWrite to with
      | false => rw [applyRedirs_refused cfg sl op rs h1 h2 hw, applyRedirs_refused cfg sl op [] h1 h2 hw]
      | true =>
        rw [applyRedirs_file cfg sl op rs h1 h2 hw, applyRedirs_file cfg sl op [] h1 h2 hw]
        rfl

theorem Rel.set1 {t t' : Table} {sl : Slots} (h : Rel t sl) {v : Option Ent} (lg : List (Str × Nat))
    (hv : (t' 1).map (·.obj) = v.map (·.obj)) (hoth : ∀ x, x < 3 → x ≠ 1 → t' x = t x) :
    Rel t' { sl with s1 := v, opened := lg } :=
  ⟨by rw [hoth 0 (by omega) (by omega)]; exact h.r0, hv, by rw [hoth 2 (by omega) (by omega)]; exact h.r2⟩

theorem Rel.set2 {t t' : Table} {sl : Slots} (h : Rel t sl) {v : Option Ent} (lg : List (Str × Nat))
    (hv : (t' 2).map (·.obj) = v.map (·.obj)) (hoth : ∀ x, x < 3 → x ≠ 2 → t' x = t x) :
    Rel t' { sl with s2 := v, opened := lg } :=
  ⟨by rw [hoth 0 (by omega) (by omega)]; exact h.r0, by rw [hoth 1 (by omega) (by omega)]; exact h.r1, hv⟩

theorem redirStep_rel {cfg : Cfg} {notLast : Bool} {s s' : Pipeline.RState} {sl : Slots} {r : Redir}
    (hstd : Std3 s.t) (hrel : Rel s.t sl) (hlog : s.opened = sl.opened)
    (hs : Pipeline.redirStep cfg notLast false s r = some s') :
    ∃ sl', applyRedirs cfg sl [r] = (sl', true) ∧ Std3 s'.t ∧ Rel s'.t sl' ∧ s'.opened = sl'.opened := by
  -- descriptor `dst` now holds the object of the entry at `src`: the reference copies slot `src` into slot `dst`
  have copy12 : ∀ {t' : Table} {e : Ent}, s.t 1 = some e → (t' 2).map (·.obj) = some e.obj →
      (∀ x, x < 3 → x ≠ 2 → t' x = s.t x) → Rel t' { sl with s2 := sl.s1 } := by
    intro t' e he hv hoth
    refine hrel.set2 sl.opened (hv.trans ?_) hoth
    rw [← hrel.r1, he]; rfl
  have copy21 : ∀ {t' : Table} {e : Ent}, s.t 2 = some e → (t' 1).map (·.obj) = some e.obj →
      (∀ x, x < 3 → x ≠ 1 → t' x = s.t x) → Rel t' { sl with s1 := sl.s2 } := by
    intro t' e he hv hoth
    refine hrel.set1 sl.opened (hv.trans ?_) hoth
    rw [← hrel.r2, he]; rfl
  cases Pipeline.redirStep_stepped hs with
  | ignored _ hc => cases hc
  | direct h1 =>
    obtain ⟨e, he⟩ := Option.isSome_iff_exists.mp hstd.o1
    obtain ⟨a, b, c⟩ := onto_of_val hstd (dst := 2) (by omega) (fun x _ => dup2_of_some he (by omega) x)
    exact ⟨_, applyRedirs_errToOut cfg sl _ [] h1, a, copy12 he b c, hlog⟩
  | viaTemp hd he ha =>
    rcases hd with ⟨h1, rfl, rfl⟩ | ⟨h1, h2, rfl, rfl⟩
    · obtain ⟨a, b, c⟩ := temp_onto hstd ha (dst := 2) (by omega) (Or.inr rfl)
      exact ⟨_, applyRedirs_errToOut cfg sl _ [] h1, a, copy12 he b c, hlog⟩
    · obtain ⟨a, b, c⟩ := temp_onto hstd ha (dst := 1) (by omega) (Or.inr rfl)
      exact ⟨_, applyRedirs_outToErr cfg sl _ [] h1 h2, a, copy21 he b c, hlog⟩
  | file h1 h2 hw ho hd ht hlg =>
    rw [ht, hlg, hlog]
    rcases hd with ⟨hf, rfl⟩ | ⟨hf, rfl⟩
    · obtain ⟨a, b, c⟩ := temp_onto hstd ho (dst := 1) (by omega) (Or.inl rfl)
      refine ⟨_, applyRedirs_file cfg sl _ [] h1 h2 hw, a, ?_, ?_⟩
      · rw [if_pos hf]; exact hrel.set1 _ b c
      · rfl
    · obtain ⟨a, b, c⟩ := temp_onto hstd ho (dst := 2) (by omega) (Or.inl rfl)
      refine ⟨_, applyRedirs_file cfg sl _ [] h1 h2 hw, a, ?_, ?_⟩
      · rw [if_neg hf]; exact hrel.set2 _ b c
      · rfl

/-- **external programs**: whenever the child's loop over the redirections runs to the end, the reference semantics
accepts the list, 0 / 1 / 2 hold exactly the objects it assigns to the three slots, and the same files were opened in
the same order — for every redirection list, every stage position and every table with 0, 1, 2 open -/
theorem C04_redirs_external (cfg : Cfg) (notLast : Bool) : ∀ (rs : List Redir) (s : Pipeline.RState) (sl : Slots),
    Std3 s.t → Rel s.t sl → s.opened = sl.opened →
    (Pipeline.redirLoop cfg notLast false s rs).2 = true →
    (applyRedirs cfg sl rs).2 = true ∧
    Rel (Pipeline.redirLoop cfg notLast false s rs).1.t (applyRedirs cfg sl rs).1 ∧
    (Pipeline.redirLoop cfg notLast false s rs).1.opened = (applyRedirs cfg sl rs).1.opened := by
  intro rs
  induction rs with
  | nil => intro s sl _ hrel hlog _; exact ⟨rfl, hrel, hlog⟩
  | cons r rs ih =>
    intro s sl hstd hrel hlog hok
    unfold Pipeline.redirLoop at hok ⊢
    cases hs : Pipeline.redirStep cfg notLast false s r with
    | none => simp [hs] at hok
    | some s' =>
      simp only [hs] at hok ⊢
      obtain ⟨sl', h1, hstd', hrel', hlog'⟩ := redirStep_rel hstd hrel hlog hs
      rw [applyRedirs_cons, h1]
      exact ih s' sl' hstd' hrel' hlog' hok

theorem redirStep_refused (cfg : Cfg) (notLast capture : Bool) (s : Pipeline.RState) {sl : Slots} {r : Redir}
    (h : (applyRedirs cfg sl [r]).2 = false) : Pipeline.redirStep cfg notLast capture s r = none := by
  obtain ⟨from_, op, to⟩ := r
  by_cases h1 : to = "&1".toList ∧ from_ = "2".toList
  · rw [applyRedirs_errToOut cfg sl op [] h1] at h; cases h
  · by_cases h2 : to = "&2".toList ∧ from_ = "1".toList
    · rw [applyRedirs_outToErr cfg sl op [] h1 h2] at h; cases h
    · cases hw : cfg.canWrite to with
      | false => simp only [Pipeline.redirStep, if_neg h1, if_neg h2, hw]; rfl
      | true => rw [applyRedirs_file cfg sl op [] h1 h2 hw] at h; cases h

/-- the reference semantics never un-refuses: what a step did to the slots does not matter for refusal of a later one -/
theorem applyRedirs_refusal_indep (cfg : Cfg) : ∀ (rs : List Redir) (sl sl2 : Slots),
    (applyRedirs cfg sl rs).2 = (applyRedirs cfg sl2 rs).2 := by
  intro rs
  induction rs with
  | nil => intro _ _; rfl
  | cons r rs ih =>
    intro sl sl2
    obtain ⟨from_, op, to⟩ := r
    by_cases h1 : to = "&1".toList ∧ from_ = "2".toList
    · rw [applyRedirs_errToOut cfg sl op rs h1, applyRedirs_errToOut cfg sl2 op rs h1]
      exact ih _ _
    · by_cases h2 : to = "&2".toList ∧ from_ = "1".toList
      · rw [applyRedirs_outToErr cfg sl op rs h1 h2, applyRedirs_outToErr cfg sl2 op rs h1 h2]
        exact ih _ _
      · cases hw : cfg.canWrite to with
        | false => rw [applyRedirs_refused cfg sl op rs h1 h2 hw, applyRedirs_refused cfg sl2 op rs h1 h2 hw]
        | true =>
          rw [applyRedirs_file cfg sl op rs h1 h2 hw, applyRedirs_file cfg sl2 op rs h1 h2 hw]
          exact ih _ _

/-- **an unopenable target: the program is not run** — when the reference semantics refuses the list the child's loop
stops (and the child calls `process::exit(1)`), whatever the table -/
theorem C04_unopenable_not_run (cfg : Cfg) (notLast capture : Bool) : ∀ (rs : List Redir) (s : Pipeline.RState) (sl : Slots),
    (applyRedirs cfg sl rs).2 = false → (Pipeline.redirLoop cfg notLast capture s rs).2 = false := by
  intro rs
  induction rs with
  | nil => intro s sl h; simp [applyRedirs] at h
  | cons r rs ih =>
    intro s sl h
    unfold Pipeline.redirLoop
    cases hs : Pipeline.redirStep cfg notLast capture s r with
    | none => rfl
    | some s' =>
      simp only
      rw [applyRedirs_cons] at h
      cases h1 : applyRedirs cfg sl [r] with
      | mk sl' ok =>
        cases ok with
        | false =>
          have := redirStep_refused cfg notLast capture s (sl := sl) (r := r) (by rw [h1])
          rw [this] at hs; cases hs
        | true =>
          rw [h1] at h
          exact ih s' sl' h

/-- **the parser half**: every accepted spelling is read back as the intended (descriptor, operator, target) triple -/
theorem C04_parse (items : List RedirParse.Item) (hok : ∀ it ∈ items, it.ok = true) :
    tokensToRedirections (items.flatMap RedirParse.Item.render) =
      .ok (items.filterMap RedirParse.Item.arg, items.filterMap RedirParse.Item.redir) :=
  RedirParse.tokensToRedirections_items items hok

/-- non-vacuity: `prog 2>e x >> o 2>&1 "a>b"` -/
example : tokensToRedirections (([RedirParse.Item.word [] ['p'], .file .two false false [] ['e'], .word [] ['x'],
      .file .none true true [] ['o'], .dup .two 1, .word ['"'] ['a', '>', 'b']] : List RedirParse.Item).flatMap RedirParse.Item.render) =
    .ok ([([], ['p']), ([], ['x']), (['"'], ['a', '>', 'b'])],
         [(['2'], ['>'], ['e']), (['1'], ['>', '>'], ['o']), (['2'], ['>'], ['&', '1'])]) :=
  C04_parse _ (by decide +kernel)

def wT0 : Table := fun fd => if fd < 3 then some { obj := .inh fd } else none
def wCfg : Cfg := { lim := 16, canWrite := fun p => p ≠ ['d'], isBuiltin := fun n => n = ['b'] }
def wCmd (n : Char) (r : List Redir) : Command := { tokens := [([], [n])], redirectsTo := r, redirectFrom := none }
def objs (t : Table) : List (Nat × Obj) := (t.toList 16).map (fun (fd, e) => (fd, e.obj))

/-- KF-C04-capture-dup: `$(p 2>&1)` — the reference semantics puts the capture pipe for stdout on 2 as well, the
captured stage keeps its stderr on the second capture pipe (core.rs:431-432, 444-445 "does not make much sense") -/
theorem C04_finding_capture_dup :
    (match (runPipeline wCfg [wCmd 'p' [(['2'], ['>'], ['&', '1'])]] true false wT0 0).children with
      | [(_, .exec _ t, _)] => objs t
      | _ => []) = [(0, .inh 0), (1, .pipeW 0), (2, .pipeW 1)] ∧
    (match (specPipeline {} wCfg [wCmd 'p' [(['2'], ['>'], ['&', '1'])]] true false wT0 0).children with
      | [(_, .exec _ t, _)] => objs t
      | _ => []) = [(0, .inh 0), (1, .pipeW 0), (2, .pipeW 0)] := by
  decide +kernel

/-- KF-C04-builtin-unopenable: `b > d` with `d` unopenable — the reference semantics refuses the command, the builtin
path silently falls back to a duplicate of the shell's own stdout -/
theorem C04_finding_builtin_unopenable :
    (builtinPrint wCfg [(['1'], ['>'], ['d'])] false wT0).target = some (.inh 1) ∧
    (specPrint wCfg [(['1'], ['>'], ['d'])] false wT0).failed = true := by
  decide +kernel

/-- non-vacuity of `C04_redirs_external`: `> f 2>&1 1>&2 2>> g` on a stage with 0, 1, 2 open runs to the end and puts
`f` on 1 and (append) `g` on 2 -/
example :
    let r := Pipeline.redirLoop wCfg false false { t := wT0 }
      [(['1'], ['>'], ['f']), (['2'], ['>'], ['&', '1']), (['1'], ['>'], ['&', '2']), (['2'], ['>', '>'], ['g'])]
    r.2 = true ∧ (r.1.t 1).map (·.obj) = some (.file ['f'] 1) ∧ (r.1.t 2).map (·.obj) = some (.file ['g'] 2) ∧
    r.1.opened = [(['f'], 1), (['g'], 2)] := by
  decide +kernel

end Cicada.C04
