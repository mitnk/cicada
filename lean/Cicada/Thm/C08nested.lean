import Cicada.Thm.C08
import Cicada.Model.FdSession
/-!
# C08 — builtin stages that start programs (`source FILE` as a stage of a pipeline)

`C08_child_clean` (Thm/C08.lean) speaks about stages that reach `execve` (`ChildEnd.exec`).  A stage whose command is a
builtin (`ChildEnd.builtin argv t`) does not exec: the builtin runs in the forked child on the table `t` the child has
after its redirections, and a builtin such as `source FILE` starts further programs from that table by calling
`run_pipeline` again (`FdSession.builtinInChild` with `launch1`).  What makes this safe:

* `C08_builtin_child_clean` / `C08_builtin_children_clean`: the table of a builtin stage is *clean* in the sense of
  `CleanUpTo t0 t []`: 0, 1, 2 are open, and from descriptor 3 on, whatever would survive an `execve` from it is exactly
  what the shell's own table `t0` passes on.  (The table itself is NOT equal to `t0` from 3 on: the targets of the stage's
  own `> file` redirections stay open at their allocated numbers, but close-on-exec — see the example on `exResB`.)
* `C08_nested_012`: hence a program started from that table by a one-command `runPipeline` starts with nothing from
  descriptor 3 on, when the shell's table has only close-on-exec entries there (`C08_nested_launch1`: in the form of
  `launch1` of `FdSession.runPlan.runPipe`).
* exact forms, from the invariant `Inv` (0, 1, 2 open and un-flagged; every flagged entry the shell's own or an opened
  file): `C08_builtin_table_exact` (every entry of the builtin stage's table from 3 on is close-on-exec and is the
  shell's own entry or a redirection target of the stage: no pipe end), `C08_children_exact_012`
  (every program `run_pipeline` starts has 0, 1, 2 OPEN and nothing else), `C08_nested_exact` (both, for the nested start).
-/
namespace Cicada.C08
open Cicada.Kernel Cicada.Kernel.Table Cicada.Pipeline

/-- **what a builtin stage runs with** (`C08_child_clean` for `.builtin` children): under the hypotheses
of `C08_child_clean`, the table `tb` of a stage that runs a builtin has 0, 1, 2 open and, from descriptor 3 on, would pass
on at `execve` exactly what the shell's own table passes on — no end of a pipe of the pipeline, of a capture pipe or of
the here-string pipe is left in it un-flagged, and no redirection target either -/
theorem C08_builtin_child_clean (cfg : Cfg) (cmd : Command) (prev cur : Option Fds) (right : List Fds) (cap : Cap) (hs : Option Fds)
    (capture : Bool) (t0 tf : Table)
    (h0 : (t0 0).isSome) (h1 : (t0 1).isSome) (h2 : (t0 2).isSome)
    (hR : Restores t0 tf (heldAtFork prev cur right cap hs))
    (hhs : cmd.isHere = false → hs = none) (hcap : capture = false → cap = (none, none))
    (argv : List Str) (tb : Table) (lg : List (Str × Nat))
    (hrun : childRun cfg cmd prev cur right cap hs capture tf = (.builtin argv tb, lg)) :
    CleanUpTo t0 tb [] := by
  rcases childRun_inv (cleanUpTo_childInv t0) (cleanUpTo_of_restores hR h0 h1 h2) hhs hcap hrun with
    ⟨c, hc⟩ | ⟨tfin, hcl, hb | he | hn⟩
  · cases hc
  · cases hb; exact hcl
  · cases he
  · cases hn

/-- `GoodChild`, and a builtin stage's table is clean -/
def GoodChild2 (t0 : Table) (c : Nat × ChildEnd × List (Str × Nat)) : Prop :=
  (∀ argv tc, c.2.1 = .exec argv tc → ∀ x, 3 ≤ x → tc x = t0.atExec x) ∧
  (∀ argv tb, c.2.1 = .builtin argv tb → CleanUpTo t0 tb [])

/-- **every stage forked by `run_pipeline` is clean, whether it execs or runs a builtin**: for every list of commands,
capture mode, background flag, limit and starting table with 0, 1, 2 open -/
theorem C08_builtin_children_clean (cfg : Cfg) (cmds : List Command) (capture bg : Bool) (t0 : Table) (np : Nat)
    (h0 : (t0 0).isSome) (h1 : (t0 1).isSome) (h2 : (t0 2).isSome) :
    ∀ c ∈ (runPipeline cfg cmds capture bg t0 np).children, GoodChild2 t0 c := by
  intro c hc
  refine ⟨C08_children_clean cfg cmds capture bg t0 np h0 h1 h2 c hc, fun argv tb hb => ?_⟩
  obtain ⟨cmd, prev, cur, right, cap, hs, tf, hR, _, hhs, hcap, hrun⟩ := children_fromFork cfg cmds capture bg t0 np c hc
  exact C08_builtin_child_clean cfg cmd prev cur right cap hs capture t0 tf h0 h1 h2 hR hhs hcap argv tb c.2.2
    (by rw [← hrun, ← hb])

theorem clean_all_cx {t0 tb : Table} (hcl : CleanUpTo t0 tb [])
    (hcx : ∀ x e, 3 ≤ x → t0 x = some e → e.cx = true) :
    ∀ x e, 3 ≤ x → tb x = some e → e.cx = true := by
  intro x e hx he
  have h := hcl.same x hx (by simp)
  rw [atExec_apply, atExec_apply, he] at h
  cases h0 : t0 x with
  | none =>
    simp only [h0] at h
    cases hc : e.cx with
    | true => rfl
    | false => simp [hc] at h
  | some e0 =>
    have := hcx x e0 hx h0
    simp only [h0, this, ↓reduceIte] at h
    cases hc : e.cx with
    | true => rfl
    | false => simp [hc] at h

/-- **programs started by a builtin stage start with {0, 1, 2}** (the theorem behind the `source` stages of the descriptor
stream).  Let the shell's table `t0` have 0, 1, 2 open and only close-on-exec entries from 3 on.  For every stage of
every pipeline started from `t0` that runs a builtin on table `tb`:
(i) `tb` has 0, 1, 2 open and from 3 on only close-on-exec entries (so no end of any pipe of the outer pipeline, which
    `pipe(2)` creates without the flag, and nothing that an `execve` would pass on);
(ii) every program started from `tb` by ANY further `runPipeline` (any configuration, commands, capture and background
    flags — in particular the one-command, no-capture, foreground call of `source`) has nothing open from 3 on;
(iii) and that inner `runPipeline` leaves the stage's table as it was. -/
theorem C08_nested_012 (cfg : Cfg) (cmds : List Command) (capture bg : Bool) (t0 : Table) (np : Nat)
    (h0 : (t0 0).isSome) (h1 : (t0 1).isSome) (h2 : (t0 2).isSome)
    (hcx : ∀ x e, 3 ≤ x → t0 x = some e → e.cx = true)
    (c : Nat × ChildEnd × List (Str × Nat)) (hc : c ∈ (runPipeline cfg cmds capture bg t0 np).children)
    (argv : List Str) (tb : Table) (hb : c.2.1 = .builtin argv tb) :
    ((tb 0).isSome ∧ (tb 1).isSome ∧ (tb 2).isSome ∧ ∀ x e, 3 ≤ x → tb x = some e → e.cx = true) ∧
    (∀ (cfg' : Cfg) (cmds' : List Command) (capture' bg' : Bool) (np' : Nat),
      ∀ c' ∈ (runPipeline cfg' cmds' capture' bg' tb np').children,
        ∀ argv' tc, c'.2.1 = .exec argv' tc → ∀ x, 3 ≤ x → tc x = none) ∧
    (∀ (cfg' : Cfg) (cmds' : List Command) (capture' bg' : Bool) (np' : Nat), cmds' ≠ [] →
      (runPipeline cfg' cmds' capture' bg' tb np').shell = tb) := by
  have hcl : CleanUpTo t0 tb [] := (C08_builtin_children_clean cfg cmds capture bg t0 np h0 h1 h2 c hc).2 argv tb hb
  have hall := clean_all_cx hcl hcx
  refine ⟨⟨hcl.o0, hcl.o1, hcl.o2, hall⟩, ?_, ?_⟩
  · intro cfg' cmds' capture' bg' np' c' hc' argv' tc he x hx
    rw [C08_children_clean cfg' cmds' capture' bg' tb np' hcl.o0 hcl.o1 hcl.o2 c' hc' argv' tc he x hx]
    exact atExec_none_of_cx (fun e he => hall x e hx he)
  · intro cfg' cmds' capture' bg' np' hne
    exact C08_shell_restored cfg' cmds' capture' bg' tb np' hne

theorem modelLauncher_children (cfg : Cfg) (cmds : List Command) (capture bg : Bool) (t : Table) (np : Nat) :
    (FdSession.modelLauncher.pipeline cfg cmds capture bg t np).children = [] ∨
    (FdSession.modelLauncher.pipeline cfg cmds capture bg t np).children = (runPipeline cfg cmds capture bg t np).children := by
  unfold FdSession.modelLauncher
  simp only
  split
  · left; rfl
  · right; rfl

/-- `launch1` of `FdSession.runPlan.runPipe` for the model launcher (what `source FILE` in a forked stage starts its
command with) -/
def modelLaunch1 (cfg : Cfg) (np : Nat) (t : Table) (cmd : Command) : Option Table :=
  match (FdSession.modelLauncher.pipeline cfg [cmd] false false t np).children with
  | [(_, .exec _ t', _)] => some t'
  | _ => none

/-- the same in the form the session player uses it: the table `launch1` hands to the helper started by `source` in a
builtin stage holds nothing from 3 on -/
theorem C08_nested_launch1 (cfg : Cfg) (cmds : List Command) (capture bg : Bool) (t0 : Table) (np : Nat)
    (h0 : (t0 0).isSome) (h1 : (t0 1).isSome) (h2 : (t0 2).isSome)
    (hcx : ∀ x e, 3 ≤ x → t0 x = some e → e.cx = true)
    (c : Nat × ChildEnd × List (Str × Nat)) (hc : c ∈ (runPipeline cfg cmds capture bg t0 np).children)
    (argv : List Str) (tb : Table) (hb : c.2.1 = .builtin argv tb)
    (cfg' : Cfg) (np' : Nat) (cmd' : Command) (t' : Table) (hl : modelLaunch1 cfg' np' tb cmd' = some t') :
    ∀ x, 3 ≤ x → t' x = none := by
  have hN := (C08_nested_012 cfg cmds capture bg t0 np h0 h1 h2 hcx c hc argv tb hb).2.1 cfg' [cmd'] false false np'
  unfold modelLaunch1 at hl
  rcases modelLauncher_children cfg' [cmd'] false false tb np' with hm | hm
  · rw [hm] at hl; simp at hl
  · rw [hm] at hl
    split at hl
    · rename_i i a t'' lg heq
      simp only [Option.some.injEq] at hl
      subst hl
      exact hN (i, .exec a t'', lg) (by rw [heq]; simp) a t'' rfl
    · simp at hl

def exCfgB : Cfg := { lim := 16, isBuiltin := fun n => n = "source".toList }

/-- `source s1.sh 2> f` -/
def exSrc : Command :=
  { tokens := [([], "source".toList), ([], "s1.sh".toList)], redirectsTo := [(['2'], ['>'], ['f'])], redirectFrom := none }

/-- `a | source s1.sh 2> f | c` from the script-mode table (the script at 3, close-on-exec) -/
def exResB : Result := runPipeline exCfgB [exCmd 'a' [] none, exSrc, exCmd 'c' [] none] false false exT0 0

def builtinView : Option (Nat × ChildEnd × List (Str × Nat)) → Option (List (Nat × Obj × Bool))
  | some (_, .builtin _ t, _) => some ((t.toList 16).map (fun (fd, e) => (fd, e.obj, e.cx)))
  | _ => none

def builtinTable : Option (Nat × ChildEnd × List (Str × Nat)) → Table
  | some (_, .builtin _ t, _) => t
  | _ => Table.empty

/-- non-vacuity, and the reason why (i) is stated through `atExec` / close-on-exec rather than as equality with the
shell's table: the middle stage is a builtin stage; its table holds its two pipe ends on 0 / 1, the redirection target on 2
AND still at its allocated number 4, close-on-exec, next to the shell's own close-on-exec script descriptor 3; the program `source` starts from that table with a one-command
`runPipeline` (also through `modelLaunch1`) has exactly 0, 1, 2 -/
example : exResB.children.length = 3 ∧
    builtinView exResB.children[1]? =
      some [(0, .pipeR 0, false), (1, .pipeW 1, false), (2, .file ['f'] 1, false), (3, .inh 3, true), (4, .file ['f'] 1, true)] ∧
    childView (runPipeline exCfgB [FdSession.fdstageCmd ['s', '1']] false false (builtinTable exResB.children[1]?) 7).children[0]? =
      some [(0, .pipeR 0), (1, .pipeW 1), (2, .file ['f'] 1)] ∧
    (modelLaunch1 exCfgB 7 (builtinTable exResB.children[1]?) (FdSession.fdstageCmd ['s', '1'])).map
        (fun t => (t.toList 16).map (fun (fd, e) => (fd, e.obj))) =
      some [(0, .pipeR 0), (1, .pipeW 1), (2, .file ['f'] 1)] := by
  decide +kernel

theorem exT0_from3 (x : Nat) (e : Ent) (hx : 3 ≤ x) (he : exT0 x = some e) : e = { obj := .inh 3, cx := true } := by
  unfold exT0 at he
  have h3 : ¬ x < 3 := by omega
  simp only [h3, ↓reduceIte] at he
  split at he
  · cases he; rfl
  · cases he

/-- `exT0` satisfies the close-on-exec hypothesis for every descriptor (not only below the limit) -/
example : ∀ x e, 3 ≤ x → exT0 x = some e → e.cx = true :=
  fun x e hx he => by rw [exT0_from3 x e hx he]

/-! ### the exact form: 0, 1, 2 stay open and un-flagged; what is flagged is the shell's own or a redirection target -/

def Std (t : Table) : Prop := ∀ x, x < 3 → ∃ e, t x = some e ∧ e.cx = false

def isFileEnt (e : Ent) : Prop := ∃ p m, e.obj = .file p m

/-- every close-on-exec entry is a file opened on the way or the entry `t0` has at that number -/
def CxP (t0 t : Table) : Prop := ∀ x e, t x = some e → e.cx = true → isFileEnt e ∨ t0 x = some e

structure Inv (t0 t : Table) : Prop where
  std : Std t
  cxp : CxP t0 t

variable {t0 t : Table}

theorem Inv.close (h : Inv t0 t) {c : Nat} (hc : 3 ≤ c) : Inv t0 (t.close c) := by
  constructor
  · intro x hx
    have : x ≠ c := by omega
    simpa [this] using h.std x hx
  · intro x e he hcx
    by_cases hxc : x = c
    · simp [hxc] at he
    · simp only [close_apply, hxc, ↓reduceIte] at he; exact h.cxp x e he hcx

theorem Inv.dup2 (h : Inv t0 t) (src dst : Nat) : Inv t0 (t.dup2 src dst) := by
  rcases dup2_cases t src dst with he | ⟨e, hv⟩
  · rw [he]; exact h
  · constructor
    · intro x hx
      rw [hv]
      split
      · exact ⟨_, rfl, rfl⟩
      · exact h.std x hx
    · intro x e' he hcx
      rw [hv] at he
      split at he
      · cases he; cases hcx
      · exact h.cxp x e' he hcx

theorem Inv.alloc (h : Inv t0 t) {lim fd : Nat} {e : Ent} {t' : Table} (ha : t.alloc lim e = some (t', fd))
    (he : e.cx = true → isFileEnt e) : Inv t0 t' ∧ 3 ≤ fd := by
  obtain ⟨hf, rfl⟩ := alloc_spec ha
  have h3 : 3 ≤ fd := by
    apply Nat.le_of_not_lt
    intro hlt
    obtain ⟨e', he', _⟩ := h.std fd hlt
    rw [hf] at he'; cases he'
  refine ⟨⟨?_, ?_⟩, h3⟩
  · intro x hx
    have : x ≠ fd := by omega
    simpa [this] using h.std x hx
  · intro x e' he' hcx
    by_cases hxf : x = fd
    · simp only [set_apply, hxf, ↓reduceIte, Option.some.injEq] at he'; subst he'; exact Or.inl (he hcx)
    · simp only [set_apply, hxf, ↓reduceIte] at he'; exact h.cxp x e' he' hcx

theorem inv_childInv : ChildInv (fun t O => Inv t0 t ∧ ∀ x ∈ O, 3 ≤ x) where
  congr := fun h hm => ⟨h.1, fun x hx => h.2 x ((hm x).mpr hx)⟩
  close := fun h => ⟨h.1.close (h.2 _ List.mem_cons_self), fun x hx => h.2 x (List.mem_cons_of_mem _ hx)⟩
  dup2 := fun src dst _ h => ⟨h.1.dup2 src dst, h.2⟩
  alloc := fun h ha _ he ht => by
    obtain ⟨hi, h3⟩ := h.1.alloc ha he
    rcases ht with rfl | ⟨_, rfl⟩
    · exact ⟨(hi.dup2 _ _).close h3, h.2⟩
    · exact ⟨hi.dup2 _ _, h.2⟩

theorem Std.isSome (h : Std t) (x : Nat) (hx : x < 3) : (t x).isSome := by
  obtain ⟨e, he, _⟩ := h x hx
  rw [he]; rfl

theorem std_atExec (h : Std t) : ∀ x, x < 3 → (t.atExec x).isSome := by
  intro x hx
  obtain ⟨e, he, hc⟩ := h x hx
  simp [atExec_apply, he, hc]

theorem fromFork_inv {cfg : Cfg} {capture : Bool} {c : Nat × ChildEnd × List (Str × Nat)} (hstd : Std t0)
    (hc : FromFork cfg capture t0 c) :
    (∀ argv tb, c.2.1 = .builtin argv tb → Inv t0 tb) ∧
    (∀ argv tc, c.2.1 = .exec argv tc → ∃ tfin, Inv t0 tfin ∧ tc = tfin.atExec) := by
  obtain ⟨cmd, prev, cur, right, cap, hs, tf, hR, hN, hhs, hcap, hrun⟩ := hc
  have h3 : ∀ x ∈ heldAtFork prev cur right cap hs, 3 ≤ x := by
    intro x hx
    apply Nat.le_of_not_lt
    intro hlt
    obtain ⟨e, he, _⟩ := hstd x hlt
    rw [hR.2 x hx] at he; cases he
  have hinv : Inv t0 tf := by
    constructor
    · intro x hx
      have : x ∉ heldAtFork prev cur right cap hs := fun hm => by have := h3 x hm; omega
      rw [hR.1 x this]; exact hstd x hx
    · intro x e he hc; exact Or.inr (hN x e he hc)
  rcases childRun_inv inv_childInv ⟨hinv, h3⟩ hhs hcap (show _ = (c.2.1, c.2.2) from hrun.symm) with
    ⟨d, hd⟩ | ⟨tfin, hfin, hb | he | hn⟩
  · rw [hd]; exact ⟨fun _ _ h => (by cases h), fun _ _ h => (by cases h)⟩
  · rw [hb]; exact ⟨fun _ _ h => (by cases h; exact hfin.1), fun _ _ h => (by cases h)⟩
  · rw [he]; exact ⟨fun _ _ h => (by cases h), fun _ _ h => (by cases h; exact ⟨tfin, hfin.1, rfl⟩)⟩
  · rw [hn]; exact ⟨fun _ _ h => (by cases h), fun _ _ h => (by cases h)⟩

/-- **every program `run_pipeline` starts has exactly 0, 1, 2 open** when the shell's table has 0, 1, 2 open and
un-flagged and only close-on-exec entries from 3 on (`C08_child_012` is the "nothing from 3 on" half, for one stage) -/
theorem C08_children_exact_012 (cfg : Cfg) (cmds : List Command) (capture bg : Bool) (t0 : Table) (np : Nat)
    (hstd : Std t0) (hcx : ∀ x e, 3 ≤ x → t0 x = some e → e.cx = true) :
    ∀ c ∈ (runPipeline cfg cmds capture bg t0 np).children, ∀ argv tc, c.2.1 = .exec argv tc →
      (tc 0).isSome ∧ (tc 1).isSome ∧ (tc 2).isSome ∧ ∀ x, 3 ≤ x → tc x = none := by
  intro c hc argv tc he
  obtain ⟨tfin, hinv, rfl⟩ := (fromFork_inv hstd (children_fromFork cfg cmds capture bg t0 np c hc)).2 argv tc he
  refine ⟨std_atExec hinv.std 0 (by omega), std_atExec hinv.std 1 (by omega), std_atExec hinv.std 2 (by omega), ?_⟩
  intro x hx
  rw [C08_children_clean cfg cmds capture bg t0 np (hstd.isSome 0 (by omega)) (hstd.isSome 1 (by omega)) (hstd.isSome 2 (by omega))
    c hc argv _ he x hx]
  exact atExec_none_of_cx (fun e h => hcx x e hx h)

/-- **the table of a builtin stage, exactly**: 0, 1, 2 open and un-flagged; every entry from 3 on is close-on-exec and is
either the shell's own entry at that number or a file this stage's redirections opened -/
theorem C08_builtin_table_exact (cfg : Cfg) (cmds : List Command) (capture bg : Bool) (t0 : Table) (np : Nat)
    (hstd : Std t0) (hcx : ∀ x e, 3 ≤ x → t0 x = some e → e.cx = true)
    (c : Nat × ChildEnd × List (Str × Nat)) (hc : c ∈ (runPipeline cfg cmds capture bg t0 np).children)
    (argv : List Str) (tb : Table) (hb : c.2.1 = .builtin argv tb) :
    Std tb ∧ ∀ x e, 3 ≤ x → tb x = some e → e.cx = true ∧ (isFileEnt e ∨ t0 x = some e) := by
  have hinv := (fromFork_inv hstd (children_fromFork cfg cmds capture bg t0 np c hc)).1 argv tb hb
  have hcl := (C08_builtin_children_clean cfg cmds capture bg t0 np (hstd.isSome 0 (by omega)) (hstd.isSome 1 (by omega))
    (hstd.isSome 2 (by omega)) c hc).2 argv tb hb
  refine ⟨hinv.std, fun x e hx he => ?_⟩
  have := clean_all_cx hcl hcx x e hx he
  exact ⟨this, hinv.cxp x e he this⟩

/-- **`C08_nested_012`, exact form**: with 0, 1, 2 open and un-flagged in the shell's table and only close-on-exec
entries from 3 on, for every builtin stage (table `tb`) of every pipeline:
(i) `tb` has 0, 1, 2 open and un-flagged, and from 3 on only close-on-exec entries, each the shell's own or a redirection
    target of this stage — so no end of a pipe of the outer pipeline (given the shell's table holds none from 3 on);
(ii) every program started from `tb` by any further `runPipeline` starts with exactly 0, 1, 2 open. -/
theorem C08_nested_exact (cfg : Cfg) (cmds : List Command) (capture bg : Bool) (t0 : Table) (np : Nat)
    (hstd : Std t0) (hcx : ∀ x e, 3 ≤ x → t0 x = some e → e.cx = true)
    (c : Nat × ChildEnd × List (Str × Nat)) (hc : c ∈ (runPipeline cfg cmds capture bg t0 np).children)
    (argv : List Str) (tb : Table) (hb : c.2.1 = .builtin argv tb) :
    (Std tb ∧ (∀ x e, 3 ≤ x → tb x = some e → e.cx = true ∧ (isFileEnt e ∨ t0 x = some e)) ∧
      ((∀ x e k, 3 ≤ x → t0 x = some e → e.obj ≠ .pipeR k ∧ e.obj ≠ .pipeW k) →
        ∀ x e k, 3 ≤ x → tb x = some e → e.obj ≠ .pipeR k ∧ e.obj ≠ .pipeW k)) ∧
    (∀ (cfg' : Cfg) (cmds' : List Command) (capture' bg' : Bool) (np' : Nat),
      ∀ c' ∈ (runPipeline cfg' cmds' capture' bg' tb np').children, ∀ argv' tc, c'.2.1 = .exec argv' tc →
        (tc 0).isSome ∧ (tc 1).isSome ∧ (tc 2).isSome ∧ ∀ x, 3 ≤ x → tc x = none) := by
  obtain ⟨hstb, hall⟩ := C08_builtin_table_exact cfg cmds capture bg t0 np hstd hcx c hc argv tb hb
  refine ⟨⟨hstb, hall, ?_⟩, ?_⟩
  · intro hnp x e k hx he
    rcases (hall x e hx he).2 with ⟨p, m, hf⟩ | h0
    · rw [hf]; exact ⟨fun h => (by cases h), fun h => (by cases h)⟩
    · exact hnp x e k hx h0
  · intro cfg' cmds' capture' bg' np'
    exact C08_children_exact_012 cfg' cmds' capture' bg' tb np' hstb (fun x e hx he => (hall x e hx he).1)

/-- `exT0` (script mode) satisfies the hypotheses of the exact theorems -/
example : Std exT0 ∧ (∀ x e, 3 ≤ x → exT0 x = some e → e.cx = true) ∧
    (∀ x e k, 3 ≤ x → exT0 x = some e → e.obj ≠ .pipeR k ∧ e.obj ≠ .pipeW k) := by
  refine ⟨?_, ?_, ?_⟩
  · intro x hx
    exact ⟨{ obj := .inh x }, by simp [exT0, hx], rfl⟩
  · exact fun x e hx he => by rw [exT0_from3 x e hx he]
  · intro x e k hx he
    rw [exT0_from3 x e hx he]
    exact ⟨fun h => (by cases h), fun h => (by cases h)⟩

end Cicada.C08

