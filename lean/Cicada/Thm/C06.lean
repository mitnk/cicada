import Cicada.Spec.C06
/-!
# C06 — the job table tracks exactly the live jobs under every order of child events

Model: `Model/Jobs.lean` (insert_job, remove_pid_from_job, the stopped/continued marking, wait_fg_job over a
queue of kernel notifications, handle_sigchld's parking and try_wait_bg_jobs).  Reference: `Spec/C06.lean`
(the abstract world of running / stopped / gone processes).  Here: local facts about the least unused id, the parking and the
count of the foreground wait.

Open findings (model = implementation ≠ world; witnesses of the first two below, of the third `hFgContinue` in
`Thm/C06d.lean`; classes in known_findings.json): the status is not recomputed when a member exits or only some members
continue (KF-C06-status-not-reevaluated), a stop and a continue of one process parked in the same interval lose their order
(KF-C06-parked-sets), a continue of a foreground member consumed by the wait is dropped (KF-C06-fg-continue-dropped).
-/
namespace Cicada.C06
open Cicada.Jobs

theorem filter_length_le {α} (p q : α → Bool) (hpq : ∀ x, p x = true → q x = true) (l : List α) :
    (l.filter p).length ≤ (l.filter q).length := by
  induction l with
  | nil => simp
  | cons x xs ih =>
    simp only [List.filter_cons]
    by_cases hp : p x = true
    · simp [hp, hpq x hp]; exact ih
    · by_cases hq : q x = true
      · simp [hp, hq]; omega
      · simp [hp, hq]; exact ih

theorem filter_length_lt {α} (p q : α → Bool) (hpq : ∀ x, p x = true → q x = true) (l : List α)
    (a : α) (ha : a ∈ l) (hqa : q a = true) (hpa : p a = false) : (l.filter p).length < (l.filter q).length := by
  induction l with
  | nil => cases ha
  | cons x xs ih =>
    simp only [List.filter_cons]
    simp only [List.mem_cons] at ha
    rcases ha with rfl | ha
    · have := filter_length_le p q hpq xs
      simp [hqa, hpa]; omega
    · have := ih ha
      by_cases hp : p x = true
      · simp [hp, hpq x hp]; exact this
      · by_cases hq : q x = true
        · simp [hp, hq]; omega
        · simp [hp, hq]; exact this

def idsFrom (l : List Job) (i : Nat) : Nat := (l.filter (fun j => decide (i ≤ j.id))).length

theorem idsFrom_succ (l : List Job) (i : Nat) (j : Job) (hj : j ∈ l) (hid : j.id = i) : idsFrom l (i + 1) < idsFrom l i := by
  unfold idsFrom
  apply filter_length_lt _ _ _ l j hj
  · simp [hid]
  · simp [hid]
  · intro x hx; simp at hx ⊢; omega

/-- the scan of `insert_job` makes a new job at the first unused id, or the fuel (at most the jobs with an id from `i` on) runs out -/
theorem insertJobGo_scan (s : Sh) (gid pid : Pid) (bg : Bool) (hno : ∀ j ∈ s.jobs, j.gid ≠ gid) :
    ∀ (f i : Nat),
      (∃ i', i ≤ i' ∧ (∀ k, i ≤ k → k < i' → ∃ j ∈ s.jobs, j.id = k) ∧ (∀ j ∈ s.jobs, j.id ≠ i') ∧
        insertJobGo s gid pid bg f i = { s with jobs := insertSorted { id := i', gid := gid, pids := [pid], isBg := bg } s.jobs }) ∨
      (f ≤ idsFrom s.jobs i ∧ insertJobGo s gid pid bg f i = s) := by
  intro f
  induction f with
  | zero => intro i; exact Or.inr ⟨Nat.zero_le _, rfl⟩
  | succ f ih =>
    intro i
    simp only [insertJobGo]
    cases hfind : s.jobs.find? (·.id = i) with
    | none =>
      left
      refine ⟨i, Nat.le_refl _, ?_, ?_, rfl⟩
      · intro k h1 h2; omega
      · intro j hj e
        have := List.find?_eq_none.mp hfind j hj
        simp [e] at this
    | some j =>
      have hj := List.mem_of_find?_eq_some hfind
      have hid : j.id = i := by simpa using List.find?_some hfind
      have hg : j.gid ≠ gid := hno j hj
      simp only [hg, ↓reduceIte]
      rcases ih (i + 1) with ⟨i', h1, h2, h3, h4⟩ | ⟨h1, h2⟩
      · left
        refine ⟨i', by omega, ?_, h3, h4⟩
        intro k hk1 hk2
        by_cases hki : k = i
        · exact ⟨j, hj, by rw [hid, hki]⟩
        · exact h2 k (by omega) hk2
      · have := idsFrom_succ s.jobs i j hj hid
        exact Or.inr ⟨by omega, h2⟩

theorem insertJobGo_new (s : Sh) (gid pid : Pid) (bg : Bool) (hno : ∀ j ∈ s.jobs, j.gid ≠ gid) :
    ∀ (f i : Nat), insertJobGo s gid pid bg f i = s ∨
      ∃ i', i ≤ i' ∧ (∀ k, i ≤ k → k < i' → ∃ j ∈ s.jobs, j.id = k) ∧ (∀ j ∈ s.jobs, j.id ≠ i') ∧
        insertJobGo s gid pid bg f i = { s with jobs := insertSorted { id := i', gid := gid, pids := [pid], isBg := bg } s.jobs } :=
  fun f i => (insertJobGo_scan s gid pid bg hno f i).symm.imp_left (·.2)

/-- **a new job takes the smallest unused id** — or the scan runs out of fuel and nothing changes; the fuel of `insert_job`
suffices (`insertJobGo_fresh`, `launch_jobs` in `Lemmas/C06Refine.lean`) -/
theorem C06_new_id_least_unused (s : Sh) (gid pid : Pid) (bg : Bool) (hno : ∀ j ∈ s.jobs, j.gid ≠ gid) :
    insertJob s gid pid bg = s ∨
    ∃ i', 1 ≤ i' ∧ (∀ k, 1 ≤ k → k < i' → ∃ j ∈ s.jobs, j.id = k) ∧ (∀ j ∈ s.jobs, j.id ≠ i') ∧
      insertJob s gid pid bg = { s with jobs := insertSorted { id := i', gid := gid, pids := [pid], isBg := bg } s.jobs } :=
  insertJobGo_new s gid pid bg hno _ 1

theorem putMap_mem (l : List (Pid × Int)) (p : Pid) (v : Int) : (p, v) ∈ putMap l p v := by simp [putMap]

theorem putMap_keeps (l : List (Pid × Int)) (p q : Pid) (v w : Int) (h : (q, w) ∈ l) (hne : q ≠ p) : (q, w) ∈ putMap l p v := by
  simp [putMap, h, hne]

theorem parkFold_reap (evs : List Ev) : ∀ (s : Sh) (p : Pid),
    (∃ c, (p, c) ∈ s.reap) ∨ (∃ c, Ev.exited p c ∈ evs) →
    ∃ c, (p, c) ∈ (evs.foldl (fun s e => match e with
      | .exited p c => { s with reap := putMap s.reap p c }
      | .killed p g => { s with kill := putMap s.kill p g }
      | .stopped p _ => { s with stop := addOnce s.stop p }
      | .continued p => { s with cont := addOnce s.cont p }) s).reap := by
  induction evs with
  | nil => intro s p h; rcases h with h | ⟨c, hc⟩
           · exact h
           · simp at hc
  | cons e rest ih =>
    intro s p h
    simp only [List.foldl_cons]
    apply ih
    rcases h with ⟨c, hc⟩ | ⟨c, hc⟩
    · left
      cases e with
      | exited q d =>
        by_cases hq : p = q
        · subst hq; exact ⟨d, putMap_mem _ _ _⟩
        · exact ⟨c, putMap_keeps _ _ _ _ _ hc hq⟩
      | killed q d => exact ⟨c, hc⟩
      | stopped q d => exact ⟨c, hc⟩
      | continued q => exact ⟨c, hc⟩
    · simp only [List.mem_cons] at hc
      rcases hc with rfl | hc
      · left; exact ⟨c, putMap_mem _ _ _⟩
      · right; exact ⟨c, hc⟩

/-- **no exit is lost by the prompt-time parking** -/
theorem C06_park_keeps_exits (s : Sh) (p : Pid) (c : Int) (h : Ev.exited p c ∈ s.pending) : ∃ c', (p, c') ∈ (park s).reap := by
  unfold park
  exact parkFold_reap s.pending _ p (Or.inr ⟨c, h⟩)

/-- the foreground wait returns at the notification that completes the count, leaving the rest pending -/
theorem C06_wait_returns_on_count (gid : Pid) (pids : List Pid) (e : Ev) (rest : List Ev) (s : Sh) (waited : Nat) (st : Int)
    (hfg : pids.contains e.pid = true) (hnc : ∀ p, e ≠ .continued p) (hcount : waited + 1 ≥ pids.length) :
    (waitFgGo gid pids (e :: rest) s waited st).1.pending = rest := by
  have hc : (if pids.contains e.pid then waited + 1 else waited) ≥ pids.length := by rw [if_pos hfg]; exact hcount
  cases e with
  | continued p => exact absurd rfl (hnc p)
  | exited p c => rw [show waitFgGo gid pids (Ev.exited p c :: rest) s waited st = _ from if_pos hc]
  | killed p g => rw [show waitFgGo gid pids (Ev.killed p g :: rest) s waited st = _ from if_pos hc]
  | stopped p g => rw [show waitFgGo gid pids (Ev.stopped p g :: rest) s waited st = _ from if_pos hc]

/-! ### findings: the model (= the implementation) disagrees with the world -/

def hStopThenSiblingExit : List Op := [.launch true 90 [90, 300], .ev (.stopped 90 19), .ev (.exited 300 0), .poll]
/-- KF-C06-status-not-reevaluated: the only live process is stopped, the table says Running -/
theorem C06_finding_status_not_reevaluated :
    modelView (hStopThenSiblingExit.foldl (fun s o => (step s o).1) {}) = [(90, [90], false)] ∧
    specView (hStopThenSiblingExit.foldl worldStep []) = [(90, [90], true)] := by decide +kernel

def hStopCont : List Op := [.launch true 50 [50], .ev (.stopped 50 19), .ev (.continued 50), .poll]
/-- KF-C06-parked-sets: stop then continue parked together: the process runs, the table says Stopped -/
theorem C06_finding_parked_sets :
    modelView (hStopCont.foldl (fun s o => (step s o).1) {}) = [(50, [50], true)] ∧
    specView (hStopCont.foldl worldStep []) = [(50, [50], false)] := by decide +kernel

end Cicada.C06
