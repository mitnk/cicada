import Cicada.Lemmas.CalcRT
import Cicada.Lemmas.Lit
import Cicada.Thm.C19pow
/-!
# C19 — the calculator at the character level

`C19_pratt` speaks of the flat operand sequence; this file starts from the character string.  `render P L t` writes an
expression tree `t : C19.T`: decimal literals (negative ones with their sign: the grammar's `int` has an optional sign,
so `2--3`, `2^-1`, `-3-2` are legal and lex as literals), parentheses by a policy `P` (`minimal`, `fullBin`, `full`, or
any that `covers` the required ones), blanks by a layout `L`.  The rendered text is the rendering `rFlat` of the parser
tree `flatOf P t`, which the parser reads back; the model's `pratt` at every nesting level then gives back the tree
itself.  Evaluation factors through that tree for EVERY line without `.`, `e`, `E`, rendered or not, hence the rendered
line evaluates to the tree's value.
-/
namespace Cicada.C19
open Cicada Cicada.Calc

/-- must the child `c` of operator `o` (left / right side) be parenthesised?  Exactly when standard
precedence and associativity would otherwise regroup it -/
def needParen (o : Op) (right : Bool) : T → Bool
  | .num _ => false
  | .bin o' _ _ =>
    if right then !(decide (prec o < prec o') || (decide (prec o = prec o') && rightAssoc o))
    else !(decide (prec o < prec o') || (decide (prec o = prec o') && !rightAssoc o))

/-- is the child of `o` on the given side written in parentheses? -/
abbrev Policy := Op → Bool → T → Bool
def minimal : Policy := needParen
def full : Policy := fun _ _ _ => true
def fullBin : Policy := fun _ _ c => match c with | .num _ => false | .bin _ _ _ => true

/-- the policy parenthesises at least where precedence / associativity require it, everywhere in `t` -/
def covers (P : Policy) : T → Bool
  | .num _ => true
  | .bin o l r => (!needParen o false l || P o false l) && (!needParen o true r || P o true r) && covers P l && covers P r

def wrap (L : Layout) (b : Bool) (s : Str) : Str :=
  if b then '(' :: (L.inOpen ++ (s ++ (L.inClose ++ [')']))) else s

/-- **the renderer**: decimal literals (negative ones with their sign, unparenthesised: the grammar's `int`
has an optional sign), operators with the layout's blanks around them, parentheses by the policy -/
def render (P : Policy) (L : Layout) : T → Str
  | .num z => showInt z
  | .bin o l r =>
    wrap L (P o false l) (render P L l) ++ (L.pre ++ (o.char :: (L.post ++ wrap L (P o true r) (render P L r))))

def tight : Layout := {}
def spaced : Layout := { pre := [' '], post := [' '] }

def tappend : Tail → Tail → Tail
  | .nil, b => b
  | .cons o t a, b => .cons o t (tappend a b)

/-- the flat `term (operation term)*` sequence of `t`: parenthesised operands are nested flats -/
def seqOf (P : Policy) : T → Term × Tail
  | .num z => (.num (showInt z), .nil)
  | .bin o l r =>
    let a := if P o false l then (Term.paren (.mk (seqOf P l).1 (seqOf P l).2), Tail.nil) else seqOf P l
    let b := if P o true r then (Term.paren (.mk (seqOf P r).1 (seqOf P r).2), Tail.nil) else seqOf P r
    (a.1, tappend a.2 (.cons o b.1 b.2))

def flatOf (P : Policy) (t : T) : Flat := .mk (seqOf P t).1 (seqOf P t).2

theorem rTail_tappend (L : Layout) : ∀ a b : Tail, rTail L (tappend a b) = rTail L a ++ rTail L b
  | .nil, b => rfl
  | .cons o t a, b => by simp only [tappend, rTail, rTail_tappend L a b, List.append_assoc, List.cons_append]

theorem okTail_tappend : ∀ a b : Tail, okTail (tappend a b) = (okTail a && okTail b)
  | .nil, b => rfl
  | .cons o t a, b => by simp only [tappend, okTail, okTail_tappend a b, Bool.and_assoc]

/-- what `seqOf` does to each child: in parentheses one nested term, otherwise its own sequence spliced in -/
def opd (b : Bool) (s : Term × Tail) : Term × Tail := if b then (.paren (.mk s.1 s.2), .nil) else s

theorem seqOf_bin (P : Policy) (o : Op) (l r : T) : seqOf P (.bin o l r) =
    ((opd (P o false l) (seqOf P l)).1, tappend (opd (P o false l) (seqOf P l)).2
      (.cons o (opd (P o true r) (seqOf P r)).1 (opd (P o true r) (seqOf P r)).2)) := rfl

theorem rFlat_opd (L : Layout) (b : Bool) (s : Term × Tail) :
    rTerm L (opd b s).1 ++ rTail L (opd b s).2 = wrap L b (rTerm L s.1 ++ rTail L s.2) := by
  cases b
  · rfl
  · simp only [opd, wrap, if_true, rTerm, rFlat, rTail, List.append_nil]

theorem ok_opd (b : Bool) (s : Term × Tail) :
    (okTerm (opd b s).1 && okTail (opd b s).2) = (okTerm s.1 && okTail s.2) := by
  cases b
  · rfl
  · simp only [opd, if_true, okTerm, okFlat, okTail, Bool.and_true]

theorem render_eq (P : Policy) (L : Layout) (t : T) : render P L t = rFlat L (flatOf P t) := by
  induction t with
  | num z => simp only [render, flatOf, seqOf, rFlat, rTerm, rTail, List.append_nil]
  | bin o l r ihl ihr =>
    simp only [flatOf, rFlat] at ihl ihr
    rw [flatOf, seqOf_bin, rFlat, rTail_tappend, ← List.append_assoc, rFlat_opd, rTail, rFlat_opd, ← ihl, ← ihr, render]

theorem ok_flatOf (P : Policy) (t : T) : okFlat (flatOf P t) = true := by
  induction t with
  | num z => simp only [flatOf, seqOf, okFlat, okTerm, okTail, isLit_showInt, Bool.and_true]
  | bin o l r ihl ihr =>
    simp only [flatOf, okFlat] at ihl ihr
    rw [flatOf, seqOf_bin, okFlat, okTail_tappend, ← Bool.and_assoc, ok_opd, okTail, ok_opd, ihl, ihr]; rfl

/-- **PEG round trip, whole line**, for EVERY parser tree whose literals are `int` texts (optional `+` / `-`, digits;
also `+7`, `((1))`): any rendering, with any blanks (spaces / tabs) at the four places of the layout and around the
line, is parsed back by `calculate` (the model's parser with its own fuel, twice the length plus two) to exactly that tree -/
theorem C19_peg_roundtrip (L : Layout) (hL : L.ok = true) (e : Flat) (he : okFlat e = true)
    (lead trail : Str) (hl : allWs lead = true) (ht : allWs trail = true) :
    calculate (lead ++ (rFlat L e ++ trail)) = some e := by
  have s2 : skip trail = [] := by simpa [skip] using skip_ws trail [] ht
  have s1 : stopOK trail = true := by simp only [stopOK, s2]
  have hfuel : needFlat e ≤ 2 * (lead ++ (rFlat L e ++ trail)).length + 2 := by
    have := needFlat_le L e he
    simp only [List.length_append]; omega
  unfold calculate
  rw [skip_rFlat L e he _ _ hl, pExpr_render L hL e _ trail he hfuel s1]
  simp [s2]

/-- **the character-level round trip** for an expression tree under any policy: `C19_peg_roundtrip` at the parser tree
`flatOf P t`, the operands in order, the parenthesised ones as nested sequences -/
theorem C19_parse_render (P : Policy) (L : Layout) (hL : L.ok = true) (t : T)
    (lead trail : Str) (hl : allWs lead = true) (ht : allWs trail = true) :
    calculate (lead ++ (render P L t ++ trail)) = some (flatOf P t) := by
  rw [render_eq]
  exact C19_peg_roundtrip L hL _ (ok_flatOf P t) lead trail hl ht

/-- the explicit fuel bound behind it: the number of characters plus one -/
theorem C19_parse_render_fuel (P : Policy) (L : Layout) (hL : L.ok = true) (t : T) (f : Nat) (rest : Str)
    (hf : (render P L t).length + 1 ≤ f) (hr : stopOK rest = true) :
    pExpr f (render P L t ++ rest) = some (flatOf P t, rest) := by
  rw [render_eq] at hf ⊢
  have := needFlat_le L _ (ok_flatOf P t)
  exact pExpr_render L hL _ f rest (ok_flatOf P t) (by omega) hr

/-- the expression tree over 64-bit values: a literal outside the 64-bit range saturates (`parse::<f64>() as i64`) -/
def toEsat : T → E Int
  | .num z => .atom (satLit z)
  | .bin o l r => .bin o (toEsat l) (toEsat r)

/-- the tree the Pratt loop sees at the outer level: literals and parenthesised operands are its atoms -/
def outerT (P : Policy) : T → E T
  | .num z => .atom (.num z)
  | .bin o l r =>
    .bin o (if P o false l then .atom l else outerT P l) (if P o true r then .atom r else outerT P r)

/-- the two side conditions of `WF` differ only in the associativity they ask for: `rightAssoc o = right` -/
theorem side_outerT (P : Policy) {o : Op} {right : Bool} {c : T} (h : (!needParen o right c || P o right c) = true) :
    prec o < rootPrec (if P o right c then .atom c else outerT P c) ∨
      (prec o = rootPrec (if P o right c then .atom c else outerT P c) ∧ rightAssoc o = right) := by
  split
  · exact Or.inl (prec_lt o)
  · rename_i hp
    rw [Bool.not_eq_true] at hp
    rw [hp, Bool.or_false, Bool.not_eq_true'] at h
    cases c with
    | num z => exact Or.inl (prec_lt o)
    | bin o' l r =>
      cases right <;>
        simpa only [needParen, Bool.false_eq_true, if_false, if_true, Bool.not_eq_false', Bool.or_eq_true,
          Bool.and_eq_true, decide_eq_true_eq, Bool.not_eq_true', outerT, rootPrec] using h

theorem WF_outerT (P : Policy) (t : T) (h : covers P t = true) : WF (outerT P t) := by
  induction t with
  | num z => trivial
  | bin o l r ihl ihr =>
    simp only [covers, Bool.and_eq_true] at h
    obtain ⟨⟨⟨hl, hr⟩, cl⟩, cr⟩ := h
    refine ⟨?_, ?_, side_outerT P hl, side_outerT P hr⟩
    · split
      · trivial
      · exact ihl cl
    · split
      · trivial
      · exact ihr cr

def joinE : E T → T
  | .atom t => t
  | .bin o l r => .bin o (joinE l) (joinE r)

mutual
/-- the expression tree a parser tree denotes: the model's `pratt` groups each flat sequence, parenthesised
operands first (this is how `evalFlat` proceeds, with values in place of trees) -/
def termT : Term → Option T
  | .num s => if isLit s then some (.num (litVal s)) else none
  | .paren f => flatT f
def flatT : Flat → Option T
  | .mk first rest =>
    match termT first, tailT rest with
    | some a, some xs => (pratt a xs).map joinE
    | _, _ => none
def tailT : Tail → Option (List (Op × T))
  | .nil => some []
  | .cons o t rest =>
    match termT t, tailT rest with
    | some a, some xs => some ((o, a) :: xs)
    | _, _ => none
end

/-- character string → expression tree: the model's PEG parser, then the model's Pratt loop at every level -/
def parseTree (line : Str) : Option T := (calculate line).bind flatT

theorem joinE_outerT (P : Policy) (t : T) : joinE (outerT P t) = t := by
  induction t with
  | num z => rfl
  | bin o l r ihl ihr =>
    simp only [outerT, joinE]
    congr 1
    · split
      · rfl
      · exact ihl
    · split
      · rfl
      · exact ihr

theorem tailT_tappend : ∀ (a b : Tail) {xs ys : List (Op × T)}, tailT a = some xs → tailT b = some ys →
    tailT (tappend a b) = some (xs ++ ys)
  | .nil, b, _, _, ha, hb => by cases ha; exact hb
  | .cons o t a, b, xs, ys, ha, hb => by
    simp only [tailT] at ha
    split at ha
    · rename_i v xs' h1 h2
      cases ha
      simp only [tappend, tailT, h1, tailT_tappend a b h2 hb, List.cons_append]
    · cases ha

theorem tailT_cons {o : Op} {t : Term} {b : Tail} {v : T} {ys : List (Op × T)} (ht : termT t = some v)
    (hb : tailT b = some ys) : tailT (.cons o t b) = some ((o, v) :: ys) := by
  simp only [tailT, ht, hb]

/-- the terms `s` of a flat form are the Pratt input of the tree `e` -/
abbrev Lists (s : Term × Tail) (e : E T) : Prop := termT s.1 = some (hd e) ∧ tailT s.2 = some (tl e)

/-- in parentheses `t` is one atom, because `pratt` rebuilds the outer tree from its flat form (`C19_pratt_fuel`) and
`joinE` puts the atoms back -/
theorem operand_of_spliced (P : Policy) (t : T) (h : covers P t = true) (hs : Lists (seqOf P t) (outerT P t))
    (b : Bool) : Lists (opd b (seqOf P t)) (if b then .atom t else outerT P t) := by
  cases b
  · exact hs
  · refine ⟨?_, rfl⟩
    show flatT (.mk (seqOf P t).1 (seqOf P t).2) = some t
    simp only [flatT, hs.1, hs.2, C19_pratt_fuel _ (WF_outerT P t h), Option.map_some, joinE_outerT]

/-- stated for `t` as an operand written either way (`b`): that is what the `bin` case needs of both children -/
theorem operand_lists (P : Policy) (t : T) (h : covers P t = true) (b : Bool) :
    Lists (opd b (seqOf P t)) (if b then .atom t else outerT P t) := by
  induction t generalizing b with
  | num z =>
    exact operand_of_spliced P _ h ⟨by simp only [seqOf, termT, isLit_showInt, if_true, litVal_showInt, outerT, hd], rfl⟩ b
  | bin o l r ihl ihr =>
    have hc := h
    simp only [covers, Bool.and_eq_true] at hc
    obtain ⟨a1, a2⟩ := ihl hc.1.2 (P o false l)
    obtain ⟨b1, b2⟩ := ihr hc.2 (P o true r)
    exact operand_of_spliced P _ h ⟨a1, tailT_tappend _ _ a2 (tailT_cons b1 b2)⟩ b

theorem flatT_flatOf (P : Policy) (t : T) (h : covers P t = true) : flatT (flatOf P t) = some t :=
  (operand_lists P t h true).1

/-- **string → tree.**  The rendered line parses back to exactly the expression tree it was rendered from:
PEG parser and Pratt loop (both with the model's own fuel), every tree, every covering policy, every layout. -/
theorem C19_tree_render (P : Policy) (L : Layout) (hL : L.ok = true) (t : T) (hP : covers P t = true)
    (lead trail : Str) (hl : allWs lead = true) (ht : allWs trail = true) :
    parseTree (lead ++ (render P L t ++ trail)) = some t := by
  rw [parseTree, C19_parse_render P L hL t lead trail hl ht]
  exact flatT_flatOf P t hP

/-! Evaluation factors through the tree: `evalFlat` runs `pratt` on the VALUES of the operands, `flatT` runs it on their
TREES; `pratt` is natural in its atoms (`pratt_map`), so the value tree is the image of the expression tree under
`fun c => valE (toEsat c)`, and folding it gives the value of the joined tree (`valE_mapE`). -/

theorem valE_mapE (e : E T) : valE (mapE (fun c => valE (toEsat c)) e) = valE (toEsat (joinE e)) := by
  induction e with
  | atom t => rfl
  | bin o l r ihl ihr => simp only [mapE, joinE, toEsat, valE, ihl, ihr]

mutual
theorem termT_eval : ∀ t : Term, okTerm t = true → ∃ a, termT t = some a ∧ evalTerm t = .ok (valE (toEsat a))
  | .num s, h => ⟨.num (litVal s), if_pos h, evalTerm_lit s h⟩
  | .paren f, h => flatT_eval f h
theorem flatT_eval : ∀ f : Flat, okFlat f = true → ∃ t, flatT f = some t ∧ evalFlat f = .ok (valE (toEsat t))
  | .mk first rest, h => by
    simp only [okFlat, Bool.and_eq_true] at h
    obtain ⟨a, a1, a2⟩ := termT_eval first h.1
    obtain ⟨xs, x1, x2⟩ := tailT_eval rest h.2
    obtain ⟨e, he⟩ := pratt_total a xs
    refine ⟨joinE e, by simp only [flatT, a1, x1, he, Option.map_some], ?_⟩
    have := pratt_map (fun c => valE (toEsat c)) a xs
    rw [he] at this
    simp only [evalFlat, a2, x2, Outcome.bind, this, Option.map_some, evalTree_valE, valE_mapE]
theorem tailT_eval : ∀ tl : Tail, okTail tl = true →
    ∃ xs, tailT tl = some xs ∧ evalTail tl = .ok (mapOps (fun c => valE (toEsat c)) xs)
  | .nil, _ => ⟨[], rfl, rfl⟩
  | .cons o t rest, h => by
    simp only [okTail, Bool.and_eq_true] at h
    obtain ⟨a, a1, a2⟩ := termT_eval t h.1
    obtain ⟨xs, x1, x2⟩ := tailT_eval rest h.2
    exact ⟨(o, a) :: xs, tailT_cons a1 x1, by simp only [evalTail, a2, x2, Outcome.bind, mapOps, List.map_cons]⟩
end

/-- **evaluation = evaluation of the parsed tree, for every line** whose parser tree has `int` literals (no
fraction / exponent forms) and that holds no `.`: `run_calculator` returns `evalTree` of the expression tree that
`parseTree` extracts — so precedence, associativity and parentheses act on the value exactly as on the tree -/
theorem C19_eval_factors (line : Str) (f : Flat) (hf : calculate line = some f) (hok : okFlat f = true)
    (hdot : line.contains '.' = false) :
    ∃ t, parseTree line = some t ∧ runCalculator line = (evalTree (toEsat t)).map CalcRes.int := by
  obtain ⟨t, h1, h2⟩ := flatT_eval f hok
  refine ⟨t, by simp [parseTree, hf, h1], ?_⟩
  simp only [runCalculator, hf, hdot, Bool.false_eq_true, if_false, h2, evalTree_valE]

theorem clean_no_dot (line : Str) (hc : clean line = true) : line.contains '.' = false := by
  cases h : line.contains '.' with
  | false => rfl
  | true =>
    rw [List.contains_iff_mem] at h
    simp only [clean, List.all_eq_true] at hc
    have := hc '.' h
    simp [cleanCh] at this

/-- **every integer-mode line** (input-only guard: no `.`, `e`, `E` in the line): either the parser rejects it
(the "syntax error" diagnostic) or the value printed is `evalTree` of the expression tree `parseTree` extracts -/
theorem C19_line_factors (line : Str) (hc : clean line = true) :
    runCalculator line = .ok .syntaxError ∨
    ∃ t, parseTree line = some t ∧ runCalculator line = (evalTree (toEsat t)).map CalcRes.int := by
  cases hf : calculate line with
  | none => left; simp [runCalculator, hf]
  | some f => exact Or.inr (C19_eval_factors line f hf (calculate_ok line hc f hf) (clean_no_dot line hc))

/-- in particular every line the shell classifies as arithmetic and sends to integer mode -/
theorem C19_arith_factors (line : Str) (ha : isArithmetic line = true) (hdot : line.contains '.' = false) :
    runCalculator line = .ok .syntaxError ∨
    ∃ t, parseTree line = some t ∧ runCalculator line = (evalTree (toEsat t)).map CalcRes.int := by
  refine C19_line_factors line ?_
  obtain ⟨_, _, init, last, rfl, _, hi, hl⟩ := (C19_classify line).mp ha
  have hnd : ∀ c, c ∈ init ++ [last] → c ≠ '.' := by
    intro c hc e; subst e
    have : (init ++ [last]).contains '.' = true := List.contains_iff_mem.mpr hc
    rw [hdot] at this; cases this
  simp only [clean, List.all_eq_true]
  intro c hc
  have hb : arithBody c = true ∨ arithLast c = true := by
    rcases List.mem_append.mp hc with h | h
    · exact Or.inl (List.all_eq_true.mp hi c h)
    · simp only [List.mem_singleton] at h; subst h; exact Or.inr hl
  have h1 : c ≠ 'e' := by rintro rfl; revert hb; decide
  have h2 : c ≠ 'E' := by rintro rfl; revert hb; decide
  simp [cleanCh, hnd c hc, h1, h2]

theorem wrap_all {q : Char → Bool} (ho : q '(' = true) (hc : q ')' = true) {L : Layout} (hio : L.inOpen.all q = true)
    (hic : L.inClose.all q = true) (b : Bool) {s : Str} (hs : s.all q = true) : (wrap L b s).all q = true := by
  cases b
  · exact hs
  · simp only [wrap, if_true, List.all_cons, List.all_append, List.all_nil, ho, hc, hio, hic, hs, Bool.and_self]

theorem render_all (q : Char → Bool) (hdig : ∀ c, isDigitA c = true → q c = true) (hop : ∀ o : Op, q o.char = true)
    (ho : q '(' = true) (hc : q ')' = true) (P : Policy) (L : Layout) (hL : L.all (·.all q) = true) (t : T) :
    (render P L t).all q = true := by
  rw [Layout.all_iff] at hL
  induction t with
  | num z =>
    obtain ⟨ds, h, ⟨e, _⟩ | ⟨e, _⟩⟩ := showInt_cases z
    all_goals
      simp only [isDigs, Bool.and_eq_true, List.all_eq_true] at h
      simp only [render, e, List.all_cons, Bool.and_eq_true, List.all_eq_true]
    · exact fun c hc => hdig c (h.2 c hc)
    · exact ⟨hop .sub, fun c hc => hdig c (h.2 c hc)⟩
  | bin o l r ihl ihr =>
    simp only [render, List.all_append, List.all_cons, Bool.and_eq_true]
    exact ⟨wrap_all ho hc hL.1.2 hL.2 _ ihl, hL.1.1.1, hop o, hL.1.1.2, wrap_all ho hc hL.1.2 hL.2 _ ihr⟩

theorem wrap_any {p : Char → Bool} (L : Layout) (b : Bool) {s : Str} (hs : s.any p = true) :
    (wrap L b s).any p = true := by
  cases b
  · exact hs
  · simp only [wrap, if_true, List.any_cons, List.any_append, hs, Bool.true_or, Bool.or_true]

theorem render_any_digit (P : Policy) (L : Layout) (t : T) : (render P L t).any isDigitA = true := by
  induction t with
  | num z =>
    obtain ⟨ds, h, ⟨e, _⟩ | ⟨e, _⟩⟩ := showInt_cases z <;> obtain ⟨d, r, rfl, hdig, _⟩ := isDigs_head h <;>
      simp only [render, e, List.any_cons, hdig, Bool.true_or, Bool.or_true]
  | bin o l r ihl ihr => simp only [render, List.any_append, wrap_any L _ ihl, Bool.true_or]

theorem wrap_snoc (L : Layout) (b : Bool) {s i : Str} {c : Char} (e : s = i ++ [c]) :
    ∃ i' c', wrap L b s = i' ++ [c'] ∧ (c' = c ∨ c' = ')') := by
  cases b
  · exact ⟨i, c, e, .inl rfl⟩
  · exact ⟨'(' :: (L.inOpen ++ (s ++ L.inClose)), ')',
      by simp only [wrap, if_true, List.append_assoc, List.cons_append], .inr rfl⟩

theorem render_snoc (P : Policy) (L : Layout) (t : T) :
    ∃ i c, render P L t = i ++ [c] ∧ (isDigitA c = true ∨ c = ')') := by
  induction t with
  | num z =>
    obtain ⟨ds, h, e⟩ := showInt_cases z
    rcases List.eq_nil_or_concat ds with rfl | ⟨i, c, rfl⟩
    · cases h
    · rw [List.concat_eq_append] at h e
      simp only [isDigs, List.all_append, List.all_cons, Bool.and_eq_true] at h
      rcases e with ⟨e, _⟩ | ⟨e, _⟩
      · exact ⟨i, c, e, .inl h.2.2.1⟩
      · exact ⟨'-' :: i, c, e, .inl h.2.2.1⟩
  | bin o l r _ ihr =>
    obtain ⟨i, c, e, hc⟩ := ihr
    obtain ⟨i', c', e', hc'⟩ := wrap_snoc L (P o true r) e
    refine ⟨wrap L (P o false l) (render P L l) ++ (L.pre ++ (o.char :: (L.post ++ i'))), c', ?_, ?_⟩
    · rw [render, e']
      simp only [List.append_assoc, List.cons_append]
    · rcases hc' with rfl | rfl
      · exact hc
      · exact .inr rfl

theorem allWs_all (q : Char → Bool) (h1 : q ' ' = true) (h2 : q '\t' = true) (s : Str) (h : allWs s = true) : s.all q = true := by
  simp only [allWs, List.all_eq_true] at h ⊢
  intro c hc
  have := h c hc
  simp only [isWsC, Bool.or_eq_true, decide_eq_true_eq] at this
  rcases this with rfl | rfl <;> assumption

theorem line_clean (P : Policy) (L : Layout) (hL : L.ok = true) (t : T)
    (lead trail : Str) (hl : allWs lead = true) (ht : allWs trail = true) :
    clean (lead ++ (render P L t ++ trail)) = true := by
  have hws := allWs_all cleanCh (by decide) (by decide)
  simp only [clean, List.all_append, Bool.and_eq_true]
  refine ⟨hws _ hl, render_all cleanCh ?_ ?_ (by decide) (by decide) P L (Layout.all_mono hws hL) t, hws _ ht⟩
  · intro c hc
    cases hq : cleanCh c with
    | true => rfl
    | false =>
      simp only [cleanCh, Bool.not_eq_false', Bool.or_eq_true, decide_eq_true_eq] at hq
      rcases hq with (rfl | rfl) | rfl <;> exact absurd hc (by decide)
  · intro o; cases o <;> decide

/-- **the rendered line evaluates to the tree's value.**  `run_calculator` on the rendered line (any policy
that parenthesises at least where precedence and associativity require, any layout of blanks) is integer
mode and returns `evalTree` of the expression tree (literals outside the 64-bit range saturated) -/
theorem C19_eval_render (P : Policy) (L : Layout) (hL : L.ok = true) (t : T) (hP : covers P t = true)
    (lead trail : Str) (hl : allWs lead = true) (ht : allWs trail = true) :
    runCalculator (lead ++ (render P L t ++ trail)) = (evalTree (toEsat t)).map CalcRes.int := by
  obtain ⟨t', h1, h2⟩ := C19_eval_factors _ _ (C19_parse_render P L hL t lead trail hl ht) (ok_flatOf P t)
    (clean_no_dot _ (line_clean P L hL t lead trail hl ht))
  rw [C19_tree_render P L hL t hP lead trail hl ht] at h1
  rw [h2, ← Option.some.inj h1]

def litsIn : T → Bool
  | .num z => inI64 z
  | .bin _ l r => litsIn l && litsIn r

theorem toEsat_eq (t : T) (h : litsIn t = true) : toEsat t = toE t := by
  induction t with
  | num z =>
    rw [toEsat, toE, satLit, if_pos (inI64_iff.1 h)]
  | bin o l r ihl ihr =>
    simp only [litsIn, Bool.and_eq_true] at h
    simp [toEsat, toE, ihl h.1, ihr h.2]

theorem leavesIn_toE (t : T) : leavesIn (toE t) = litsIn t := by
  induction t with
  | num z => rfl
  | bin o l r ihl ihr => simp only [toE, leavesIn, litsIn, ihl, ihr]

theorem specEval_litsIn (t : T) (v : Int) (h : specEval t = some v) : litsIn t = true := by
  induction t generalizing v with
  | num z =>
    simp only [specEval] at h
    split at h
    · rename_i hz; simp [litsIn, inI64, hz]
    · simp at h
  | bin o l r ihl ihr =>
    simp only [specEval] at h
    split at h
    · rename_i a b ha hb; simp [litsIn, ihl a ha, ihr b hb]
    · simp at h

/-- with literals in range the tree is the plain one (`C19.toE`), so `C19_wrap_hom_pow` / `C19_div` apply -/
theorem C19_eval_render_inrange (P : Policy) (L : Layout) (hL : L.ok = true) (t : T) (hP : covers P t = true)
    (hin : litsIn t = true) (lead trail : Str) (hl : allWs lead = true) (ht : allWs trail = true) :
    runCalculator (lead ++ (render P L t ++ trail)) = (evalTree (toE t)).map CalcRes.int := by
  rw [C19_eval_render P L hL t hP lead trail hl ht, toEsat_eq t hin]

/-- **end to end against the reference evaluator**: whenever the statement fixes the value of the tree
(`specEval`, exact arithmetic reduced to 64 bits), the rendered character line yields exactly that value -/
theorem C19_value_render (P : Policy) (L : Layout) (hL : L.ok = true) (t : T) (hP : covers P t = true)
    (v : Int) (hv : specEval t = some v) (lead trail : Str) (hl : allWs lead = true) (ht : allWs trail = true) :
    runCalculator (lead ++ (render P L t ++ trail)) = .ok (.int v) := by
  rw [C19_eval_render_inrange P L hL t hP (specEval_litsIn t v hv) lead trail hl ht, C19_spec_eval t v hv]
  rfl

theorem covers_of {P : Policy} (h : ∀ o right c, needParen o right c = true → P o right c = true) (t : T) :
    covers P t = true := by
  induction t with
  | num z => rfl
  | bin o l r ihl ihr =>
    have side : ∀ right c, (!needParen o right c || P o right c) = true := fun right c => by
      cases hn : needParen o right c
      · rfl
      · exact h o right c hn
    simp only [covers, side, ihl, ihr, Bool.and_self]

theorem covers_minimal (t : T) : covers minimal t = true := covers_of (fun _ _ _ h => h) t

theorem covers_full (t : T) : covers full t = true := covers_of (fun _ _ _ _ => rfl) t

theorem covers_fullBin (t : T) : covers fullBin t = true :=
  covers_of (fun _ _ c h => by
    cases c with
    | num z => exact Bool.noConfusion h
    | bin _ _ _ => rfl) t

def allSp (s : Str) : Bool := s.all (· = ' ')
/-- the layout uses spaces only (`is_arithmetic` does not allow tabs) -/
def Layout.spaces (L : Layout) : Bool := allSp L.pre && allSp L.post && allSp L.inOpen && allSp L.inClose

theorem allSp_all (q : Char → Bool) (h1 : q ' ' = true) (s : Str) (h : allSp s = true) : s.all q = true := by
  simp only [allSp, List.all_eq_true, decide_eq_true_eq] at h ⊢
  intro c hc; rw [h c hc]; exact h1

theorem spaces_ok (L : Layout) (h : Layout.spaces L = true) : L.ok = true := Layout.all_mono (allSp_all isWsC (by decide)) h

theorem digit_not_op : ∀ c, isDigitA c = true → arithOp c = true → False := by
  intro c h1 h2
  simp only [arithOp, Bool.or_eq_true, decide_eq_true_eq] at h2
  rcases h2 with (((rfl | rfl) | rfl) | rfl) | rfl <;> revert h1 <;> decide

/-- `init` is not empty because a digit and an operator are two characters -/
theorem reArithShape_snoc {init : Str} {last : Char} (hall : (init ++ [last]).all arithBody = true)
    (hlast : arithLast last = true) (hdig : (init ++ [last]).any isDigitA = true)
    (hop : (init ++ [last]).any arithOp = true) : reArithShape (init ++ [last]) = true := by
  rw [reArithShape_concat]
  cases init with
  | nil =>
    simp only [List.nil_append, List.any_cons, List.any_nil, Bool.or_false] at hdig hop
    exact (digit_not_op _ hdig hop).elim
  | cons a i =>
    simp only [List.all_append, Bool.and_eq_true] at hall
    simp only [List.isEmpty_cons, Bool.not_false, hall.1, hlast, Bool.and_self]

/-- **the rendered line is classified as arithmetic exactly when it holds an operator character** (it always
holds a digit, consists of arithmetic characters and ends in a digit, `)` or a blank); layouts with spaces only -/
theorem C19_render_arith (P : Policy) (L : Layout) (hL : Layout.spaces L = true) (t : T)
    (lead trail : Str) (hl : allSp lead = true) (ht : allSp trail = true) :
    isArithmetic (lead ++ (render P L t ++ trail)) = (lead ++ (render P L t ++ trail)).any arithOp := by
  have hdig : (lead ++ (render P L t ++ trail)).any isDigitA = true := by
    simp only [List.any_append, render_any_digit P L t, Bool.true_or, Bool.or_true]
  have hbody : (lead ++ (render P L t ++ trail)).all arithBody = true := by
    have hsp := allSp_all arithBody (by decide)
    simp only [List.all_append, Bool.and_eq_true]
    refine ⟨hsp _ hl, ?_, hsp _ ht⟩
    refine render_all arithBody ?_ ?_ (by decide) (by decide) P L (Layout.all_mono hsp hL) t
    · intro c hc; simp only [arithBody, hc, Bool.or_true, Bool.true_or]
    · intro o; cases o <;> decide
  -- the line is `init ++ [last]` with `last` the end of the rendering, or the last blank of `trail`
  have hsnoc : ∃ init last, lead ++ (render P L t ++ trail) = init ++ [last] ∧ arithLast last = true := by
    rcases List.eq_nil_or_concat trail with rfl | ⟨tr, c, rfl⟩
    · obtain ⟨i, c, e, hc⟩ := render_snoc P L t
      refine ⟨lead ++ i, c, by rw [e, List.append_nil, List.append_assoc], ?_⟩
      rcases hc with h | rfl
      · simp only [arithLast, h, Bool.or_true, Bool.true_or]
      · decide
    · rw [List.concat_eq_append] at ht ⊢
      simp only [allSp, List.all_append, List.all_cons, Bool.and_eq_true, decide_eq_true_eq] at ht
      exact ⟨lead ++ (render P L t ++ tr), c, by simp only [List.append_assoc], ht.2.1 ▸ by decide⟩
  obtain ⟨init, last, e, hlast⟩ := hsnoc
  rw [e] at hdig hbody ⊢
  cases hop : (init ++ [last]).any arithOp with
  | false => simp only [isArithmetic, hop, Bool.and_false, Bool.false_and]
  | true => simp only [isArithmetic, hdig, hop, reArithShape_snoc hbody hlast hdig hop, Bool.and_self]

theorem C19_render_arith_bin (P : Policy) (L : Layout) (hL : Layout.spaces L = true) (o : Op) (l r : T)
    (lead trail : Str) (hl : allSp lead = true) (ht : allSp trail = true) :
    isArithmetic (lead ++ (render P L (.bin o l r) ++ trail)) = true := by
  rw [C19_render_arith P L hL _ lead trail hl ht]
  have : arithOp o.char = true := by cases o <;> decide
  simp [render, List.any_append, this]

/-- `3 ^ 41 / (2 - 9)` -/
example : render minimal tight wT = "3^41/(2-9)".toList := by
  lit_lists
  decide +kernel
example : render minimal spaced wT = "3 ^ 41 / (2 - 9)".toList := by
  lit_lists
  decide +kernel
example : render full tight wT = "((3)^(41))/((2)-(9))".toList := by
  lit_lists
  decide +kernel
example : runCalculator ([' '] ++ (render minimal spaced wT ++ [' ', '\t'])) = .ok (.int 60070252892616689) :=
  C19_value_render minimal spaced (by decide) wT (covers_minimal _) _ (by decide +kernel) _ _ (by decide) (by decide)

/-- negative literals, right-nested `-`, `^` under a signed base: `2 - (-3 - -2 ^ 2 ^ 3) * -1` -/
def wNeg : T := .bin .sub (.num 2) (.bin .mul (.bin .sub (.num (-3)) (.bin .pow (.num (-2)) (.bin .pow (.num 2) (.num 3)))) (.num (-1)))
example : render minimal tight wNeg = "2-(-3--2^2^3)*-1".toList := by
  lit_lists
  decide +kernel
example : render minimal spaced wNeg = "2 - (-3 - -2 ^ 2 ^ 3) * -1".toList := by
  lit_lists
  decide +kernel
example : render fullBin { pre := [' '], inOpen := ['\t'], inClose := [' ', ' '] } wNeg
    = "2 -(\t(\t-3 -(\t-2 ^(\t2 ^3  )  )  ) *-1  )".toList := by
  lit_lists
  decide +kernel
example : calculate (render minimal tight wNeg) = some (flatOf minimal wNeg) := by
  simpa using C19_parse_render minimal tight (by decide) wNeg [] [] (by decide) (by decide)
example : parseTree (render minimal tight wNeg) = some wNeg := by
  simpa using C19_tree_render minimal tight (by decide) wNeg (covers_minimal _) [] [] (by decide) (by decide)
example : specEval wNeg = some (-257) := by decide +kernel
/-- guards of `C19_arith_factors` / `C19_line_factors` on a concrete line, both outcomes -/
example : isArithmetic "(1+2)*-3".toList = true ∧ "(1+2)*-3".toList.contains '.' = false ∧ clean "(1+2)*-3".toList = true ∧
    runCalculator "(1+2)*-3".toList = .ok (.int (-9)) := by
  lit_lists
  decide +kernel
example : isArithmetic "2 - - 3".toList = true ∧ clean "2 - - 3".toList = true ∧ runCalculator "2 - - 3".toList = .ok .syntaxError := by
  lit_lists
  decide +kernel
example : isArithmetic (render minimal spaced wNeg) = true := by
  have h : ∀ l r, wNeg = .bin .sub l r → isArithmetic (render minimal spaced wNeg) = true := fun l r e => by
    simpa only [e, List.nil_append, List.append_nil] using
      C19_render_arith_bin minimal spaced (by decide) .sub l r [] [] (by decide) (by decide)
  exact h _ _ rfl
/-- a literal outside the 64-bit range saturates -/
example : satLit 99999999999999999999 = i64Max ∧ satLit (-99999999999999999999) = i64Min ∧ satLit (-5) = -5 := by decide +kernel
example : runCalculator (render minimal spaced (.bin .add (.num 99999999999999999999) (.num 1))) = .ok (.int i64Min) := by
  have := C19_eval_render minimal spaced (by decide) (.bin .add (.num 99999999999999999999) (.num 1)) (by decide) [] [] (by decide) (by decide)
  simp only [List.nil_append, List.append_nil] at this
  rw [this]; decide +kernel
/-- a parser tree that is not the image of an expression tree: `+7` and a doubly parenthesised operand -/
example : okFlat (.mk (.num "+7".toList) (.cons .add (.paren (.mk (.paren (.mk (.num "1".toList) .nil)) .nil)) .nil)) = true := by
  decide +kernel

end Cicada.C19
