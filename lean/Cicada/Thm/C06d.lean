import Cicada.Lemmas.C06Multi
import Cicada.Lemmas.C06Wait
/-!
# C06 — stop / continue events on MULTI-process jobs, and the foreground wait exactly

Third class of histories on which the refinement `modelView ~ specView` is a theorem (after the exit-only class and the
single-process class of `Thm/C06c.lean`), and the exact description of the foreground wait.

## (a) `C06_refines_whole_job_stops`

Jobs with any number of processes, launched with either `bg` flag and never waited for in the foreground; a stop / continue hits the WHOLE job before the next poll (Ctrl-Z,
`kill -STOP -pgid`, `bg`, `kill -CONT -pgid`: the group is signalled).  The guard `WfWholeJobStops` is the decidable check
`wfFromM [] []` of the history followed by the final poll (`Lemmas/C06Multi.lean: okOpM`; ghost state = the never-forgetting
world and `dirty`, the pids notified since the last poll):

* launch: non-empty, pairwise distinct, never used pids under a never used group id (any number of processes, either `bg` flag);
* every notification goes to a process that has had none since the last poll          — refuses **KF-C06-parked-sets**
  (stop and continue of one process parked together: the two sets forget their order);
* exit / kill: of a running process of a job in which no member is stopped, and
  stop: of a running process of a job in which no member's exit is still unapplied     — refuse **KF-C06-status-not-reevaluated**,
  first half (a member leaves the job while a sibling's stop is recorded or about to be: `remove_pid_from_job` does not
  recompute the status.  Note that the ORDER of the two events does not matter: `[exit of B, stop of A]` inside one poll
  interval diverges like `[stop of A, exit of B]`, see `C06_exit_then_stop_diverges`);
* continue: of a stopped process;
* poll: every job is uniform — no stopped member or no running member, i.e. the stops / continues since the last poll have
  hit all live members                                                                — refuses **KF-C06-status-not-reevaluated**,
  second half (only some members continue: `mark_job_member_continued` flips to Running only when the stopped set is empty);
* no `.waitFg`                                                                         — refuses **KF-C06-fg-continue-dropped**
  (which needs a foreground wait that consumes a continue).

Each witness of `Thm/C06.lean` (and the recorded witness of the third class) is refused: `C06_guard_refuses_findings`.
Inside the guard, after the final poll, the table is the reference view up to the order of the jobs: exactly the jobs
with a live process, exactly their live pids, Stopped exactly when all live members are stopped.

Outside the guard (besides the three classes): exits / kills of members of a stopped job (`kill -9` of a stopped job), a
stop or continue delivered to part of a job across a poll, any `.waitFg`, reuse of pids / group ids, a second launch into
an existing group.

## (b) `C06_wait_returns_exactly`

`waitFg gid pids` on a pending queue `pre ++ elast :: post` in which the job's own notifications up to `elast` are exits /
kills, one per member: the result is described completely — consumed prefix, parked notifications of other children, the
table without the job, the status of the last pid.  Guard: no job with group id 0 (`C06_wait_returns_exactly_any_gid`
drops it and describes everything but `stoppedSet` / `status` / `isBg`; `C06_wait_gid0_witness` shows why).
-/
namespace Cicada.C06
open Cicada.Jobs

/-! ### (a) multi-process jobs, whole-job stops -/

/-- the decidable guard of the third class: the history followed by the final poll passes `okOpM` step by step -/
def WfWholeJobStops (ops : List Op) : Prop := wfFromM [] [] (ops ++ [Op.poll]) = true

instance (ops : List Op) : Decidable (WfWholeJobStops ops) := by unfold WfWholeJobStops; infer_instance

theorem wfFromM_append : ∀ (a b : List Op) (gw : List WJob) (d : List Pid),
    wfFromM gw d (a ++ b) = (wfFromM gw d a && wfFromM (a.foldl gStep gw) (a.foldl dirtyStep d) b) := by
  intro a
  induction a with
  | nil => intro b gw d; simp [wfFromM]
  | cons o os ih => intro b gw d; simp [wfFromM, ih, Bool.and_assoc]

/-- stated for `wfFromM` itself: `WfWholeJobStops` asks it of the history WITH its final poll (every job uniform) -/
theorem C06_whole_job_invariant (ops : List Op) (hwf : wfFromM [] [] ops = true) :
    InvM JB (ops.foldl (fun s o => (step s o).1) {}) (ops.foldl (fun s o => (step s o).1) {}).pending (ops.foldl gStep []) :=
  (InvB_run ops {} [] [] InvM_init (fun _ hp => nomatch hp) hwf).1

theorem whole_job_final_poll (ops : List Op) (hwf : WfWholeJobStops ops) :
    InvM JB (poll (ops.foldl (fun s o => (step s o).1) {})) (poll (ops.foldl (fun s o => (step s o).1) {})).pending (ops.foldl gStep []) ∧
    keys1 (poll (ops.foldl (fun s o => (step s o).1) {})) (poll (ops.foldl (fun s o => (step s o).1) {})).pending = [] := by
  unfold WfWholeJobStops at hwf
  rw [wfFromM_append] at hwf
  simp only [Bool.and_eq_true, wfFromM, Bool.and_true] at hwf
  have hU : ∀ wj ∈ ops.foldl gStep [], uniformJ wj = true := by
    simpa only [okOpM, List.all_eq_true] using hwf.2
  exact InvB_poll _ _ (C06_whole_job_invariant ops hwf.1) hU

/-- **C06 — refinement with stop and continue events on multi-process jobs without foreground wait**: after any history of launches,
exit / kill notifications of members of running jobs, stop / continue notifications that reach every live member of a job
before the next poll (at most one notification per process between two polls, no foreground wait) and polls, followed by
one poll, the table is the reference view up to the order of the jobs: exactly the jobs with a live process, exactly their
live pids, Stopped exactly when all the live members are stopped -/
theorem C06_refines_whole_job_stops (ops : List Op) (hwf : WfWholeJobStops ops) :
    (modelView ((ops ++ [Op.poll]).foldl (fun s o => (step s o).1) {})).Perm (specView ((ops ++ [Op.poll]).foldl worldStep [])) := by
  rw [specView_ghost _ (wfFromM_fresh _ _ _ hwf)]
  simp only [List.foldl_append, List.foldl_cons, List.foldl_nil, step, gStep]
  obtain ⟨h1, h2⟩ := whole_job_final_poll ops hwf
  exact InvM_views spec_entryM _ _ _ h1 h2

/-- both views list every group id once: the permutation is an equality of finite maps gid ↦ (pids, Stopped?) -/
theorem C06_whole_job_views_gids_nodup (ops : List Op) (hwf : wfFromM [] [] ops = true) :
    ((modelView (ops.foldl (fun s o => (step s o).1) {})).map (·.1)).Nodup ∧
    ((specView (ops.foldl worldStep [])).map (·.1)).Nodup := by
  have h := C06_whole_job_invariant ops hwf
  constructor
  · have : (modelView (ops.foldl (fun s o => (step s o).1) {})).map (·.1) =
        (ops.foldl (fun s o => (step s o).1) {}).jobs.map (·.gid) := by
      simp [modelView, List.map_map, Function.comp_def]
    rw [this]; exact h.gids
  · rw [specView_ghost _ (wfFromM_fresh _ _ _ hwf)]
    exact specView_gids_nodup _ h.world.gids

/-- **one poll reaches quiescence** on this class too: after the final poll nothing is pending or parked in any of the
four maps (each process has at most one notification, and the poll applies one per process) -/
theorem C06_whole_job_poll_quiescent (ops : List Op) (hwf : WfWholeJobStops ops) :
    let s := (ops ++ [Op.poll]).foldl (fun s o => (step s o).1) {}
    s.pending = [] ∧ s.reap = [] ∧ s.kill = [] ∧ s.stop = [] ∧ s.cont = [] := by
  simp only [List.foldl_append, List.foldl_cons, List.foldl_nil, step]
  obtain ⟨_, h2⟩ := whole_job_final_poll ops hwf
  simp only [keys1, List.append_eq_nil_iff, List.map_eq_nil_iff] at h2
  exact ⟨h2.1.1.1.1, h2.1.1.1.2, h2.1.1.2, h2.1.2, h2.2⟩

/-- two jobs of three and two processes (pids not ascending) and a third taking a freed id: a member exits while its job
runs, the rest of the job is stopped as a whole (in two different orders against the table), continued as a whole,
stopped again; the other job is stopped, continued and finishes by an exit and a kill -/
def hWhole : List Op :=
  [.launch true 10 [11, 10, 12], .launch false 20 [20, 21], .ev (.exited 11 0), .ev (.stopped 21 20), .ev (.stopped 20 20), .poll,
   .ev (.stopped 12 19), .ev (.stopped 10 19), .ev (.continued 20), .ev (.continued 21), .poll,
   .ev (.continued 10), .ev (.killed 21 9), .ev (.continued 12), .ev (.exited 20 3), .poll,
   .launch true 30 [31, 30], .ev (.stopped 10 19), .ev (.stopped 31 19), .ev (.stopped 12 19), .ev (.stopped 30 19)]

example : WfWholeJobStops hWhole := by decide +kernel

example : modelView ((hWhole ++ [Op.poll]).foldl (fun s o => (step s o).1) {}) = [(10, [10, 12], true), (30, [31, 30], true)] ∧
    specView ((hWhole ++ [Op.poll]).foldl worldStep []) = [(10, [10, 12], true), (30, [31, 30], true)] := by decide +kernel

example : (modelView ((hWhole ++ [Op.poll]).foldl (fun s o => (step s o).1) {})).Perm
    (specView ((hWhole ++ [Op.poll]).foldl worldStep [])) := C06_refines_whole_job_stops hWhole (by decide +kernel)

example : WfWholeJobStops [Op.launch true 90 [90, 300], .ev (.stopped 300 19), .ev (.stopped 90 19)] ∧
    modelView (([Op.launch true 90 [90, 300], .ev (.stopped 300 19), .ev (.stopped 90 19)] ++ [Op.poll]).foldl (fun s o => (step s o).1) {})
      = [(90, [90, 300], true)] := by decide +kernel

/-! ### the guard refuses the finding witnesses -/

/-- the recorded witness of KF-C06-fg-continue-dropped (known_findings.json, stream history `L:0:300:300;P;E:s:300:20;P;E:c:300:0;W:300:300;P;P`) -/
def hFgContinue : List Op :=
  [.launch false 300 [300], .poll, .ev (.stopped 300 20), .poll, .ev (.continued 300), .waitFg 300 [300], .poll, .poll]

/-- **the guard refuses the three recorded finding witnesses**: the two of `Thm/C06.lean` and the recorded one of the third class -/
theorem C06_guard_refuses_findings :
    ¬ WfWholeJobStops hStopThenSiblingExit ∧ ¬ WfWholeJobStops hStopCont ∧ ¬ WfWholeJobStops hFgContinue := by decide +kernel

/-- … and it is the clause named in the header that refuses each: the exit of 300 while 90 is stopped; the second
notification of 50 in one interval; the foreground wait -/
example :
    okOpM ([Op.launch true 90 [90, 300], .ev (.stopped 90 19)].foldl gStep []) [90] (.ev (.exited 300 0)) = false ∧
    okOpM ([Op.launch true 50 [50], .ev (.stopped 50 19)].foldl gStep []) [50] (.ev (.continued 50)) = false ∧
    (∀ w d gid pids, okOpM w d (.waitFg gid pids) = false) := by
  refine ⟨by decide, by decide, fun _ _ _ _ => rfl⟩

/-- the order of the two events of KF-C06-status-not-reevaluated does not matter: the sibling's exit BEFORE the stop, in the
same poll interval, diverges as well (the stop is applied first when its pid comes first in the table) — the guard refuses
it through the clause of the stop -/
theorem C06_exit_then_stop_diverges :
    let h : List Op := [.launch true 90 [90, 300], .ev (.exited 300 0), .ev (.stopped 90 19)]
    ¬ WfWholeJobStops h ∧
    modelView ((h ++ [Op.poll]).foldl (fun s o => (step s o).1) {}) = [(90, [90], false)] ∧
    specView ((h ++ [Op.poll]).foldl worldStep []) = [(90, [90], true)] := by decide +kernel

/-- only one of two stopped members continues before the poll: the table stays Stopped, the world is Running — refused by
the uniformity check of the poll -/
theorem C06_partial_continue_diverges :
    let h : List Op := [.launch true 90 [90, 300], .ev (.stopped 90 19), .ev (.stopped 300 19), .poll, .ev (.continued 90)]
    ¬ WfWholeJobStops h ∧
    modelView ((h ++ [Op.poll]).foldl (fun s o => (step s o).1) {}) = [(90, [90, 300], true)] ∧
    specView ((h ++ [Op.poll]).foldl worldStep []) = [(90, [90, 300], false)] := by decide +kernel

/-! ### (b) the foreground wait, exactly -/

/-- **C06 — the foreground wait returns exactly at the last terminal notification of its own members**: let the table hold
the job `j0` under `gid` with `j0.pids = pids` (no job with group id 0), and let the pending queue be `pre ++ elast :: post`
where `elast` is a notification of a member and the members' notifications in `pre ++ [elast]` are exits / kills, one per
member (any interleaving with notifications of other processes, of any kind; `post` arbitrary).  Then `waitFg`
* consumes exactly `pre ++ [elast]` and leaves `post` pending,
* parks the other processes' notifications of `pre` exactly as the prompt-time parking would (`parkF`),
* removes the job (and nothing else) from the table,
* reports the status carried by the notification of the last pid of `pids` -/
theorem C06_wait_returns_exactly (s : Sh) (gid : Pid) (pids : List Pid) (j0 : Job) (pre post : List Ev) (elast : Ev)
    (hfind : findGid s gid = some j0) (hpids : j0.pids = pids) (hne : pids ≠ [])
    (hz : ∀ j ∈ s.jobs, j.gid ≠ 0)
    (hq : s.pending = pre ++ elast :: post)
    (hlast : C02.isFg pids elast = true)
    (hterm : ∀ e ∈ pre ++ [elast], C02.isFg pids e = true → exitLike e = true)
    (hown : (((pre ++ [elast]).filter (C02.isFg pids)).map Ev.pid).Nodup)
    (hcount : ((pre ++ [elast]).filter (C02.isFg pids)).length = pids.length) :
    (waitFg s gid pids).1 =
      { (pre.filter (fun e => !C02.isFg pids e)).foldl parkF s with
          jobs := s.jobs.filter (fun x => decide (x.id ≠ j0.id)), pending := post } ∧
    ∃ el ∈ pre ++ [elast], some el.pid = pids.getLast? ∧ (waitFg s gid pids).2 = el.status := by
  have hperm := own_perm pids (pre ++ [elast]) hown hcount
  have hlen : 0 < pids.length := List.length_pos_iff.mpr hne
  refine ⟨?_, ?_⟩
  · obtain ⟨h1, h2, h3, h4, h5, _, h7⟩ := wait_returns_exactly_core s gid pids j0 pre post elast hfind hpids hne hq hlast hterm hown hcount
    have h7 := h7 hz
    cases hr : (waitFg s gid pids).1 with
    | mk jobs reap kill stop cont pending =>
      rw [hr] at h1 h2 h3 h4 h5 h7
      simp only at h1 h2 h3 h4 h5 h7
      subst h1 h2 h3 h4 h5 h7
      rfl
  · unfold waitFg
    simp only [hne, ↓reduceIte]
    rw [hq]
    have hxl := hterm elast (by simp) hlast
    have hcount' : (pre.filter (C02.isFg pids)).length + 1 + 0 = pids.length := by
      simpa [List.filter_append, hlast] using hcount
    rw [waitFgGo_cut gid pids post elast hlast hxl pre s 0 0
      (fun e he => hterm e (List.mem_append_left _ he)) hcount']
    rw [C02.waitFgGo_status gid pids (pre ++ [elast]) s 0 0
      (fun e he hfg => by rw [terminal_eq_exitLike]; exact hterm e he hfg) hown (by omega) hlen]
    obtain ⟨pl, hpl⟩ : ∃ pl, pids.getLast? = some pl := by
      cases h : pids.getLast? with
      | none => simp [List.getLast?_eq_none_iff] at h; exact absurd h hne
      | some x => exact ⟨x, rfl⟩
    have hplm : pl ∈ pids := by
      obtain ⟨ys, rfl⟩ := List.getLast?_eq_some_iff.mp hpl; simp
    obtain ⟨el, hel, hep⟩ := List.mem_map.mp (hperm.symm.subset hplm)
    obtain ⟨hel1, hel2⟩ := List.mem_filter.mp hel
    have hle : C02.isLastEv pids el = true := by simp [C02.isLastEv, hel2, hep, hpl]
    cases hf : (pre ++ [elast]).find? (C02.isLastEv pids) with
    | none => exact absurd hle (by simpa using List.find?_eq_none.mp hf el hel1)
    | some e' =>
      have he'm := List.mem_of_find?_eq_some hf
      have he'l := List.find?_some hf
      simp only [C02.isLastEv, Bool.and_eq_true, beq_iff_eq] at he'l
      exact ⟨e', he'm, he'l.2, rfl⟩

/-- the same without the guard "no job has group id 0": everything but the `stoppedSet` / `status` / `isBg` of the jobs (a stop of
another child met on the way is looked up under group id 0: `C06_wait_gid0_witness`) -/
theorem C06_wait_returns_exactly_any_gid (s : Sh) (gid : Pid) (pids : List Pid) (j0 : Job) (pre post : List Ev) (elast : Ev)
    (hfind : findGid s gid = some j0) (hpids : j0.pids = pids) (hne : pids ≠ [])
    (hq : s.pending = pre ++ elast :: post)
    (hlast : C02.isFg pids elast = true)
    (hterm : ∀ e ∈ pre ++ [elast], C02.isFg pids e = true → exitLike e = true)
    (hown : (((pre ++ [elast]).filter (C02.isFg pids)).map Ev.pid).Nodup)
    (hcount : ((pre ++ [elast]).filter (C02.isFg pids)).length = pids.length) :
    (waitFg s gid pids).1.pending = post ∧
    (waitFg s gid pids).1.reap = ((pre.filter (fun e => !C02.isFg pids e)).foldl parkF s).reap ∧
    (waitFg s gid pids).1.kill = ((pre.filter (fun e => !C02.isFg pids e)).foldl parkF s).kill ∧
    (waitFg s gid pids).1.stop = ((pre.filter (fun e => !C02.isFg pids e)).foldl parkF s).stop ∧
    (waitFg s gid pids).1.cont = ((pre.filter (fun e => !C02.isFg pids e)).foldl parkF s).cont ∧
    (waitFg s gid pids).1.jobs.map (fun j => (j.id, j.gid, j.pids)) =
      (s.jobs.filter (fun x => decide (x.id ≠ j0.id))).map (fun j => (j.id, j.gid, j.pids)) :=
  have H := wait_returns_exactly_core s gid pids j0 pre post elast hfind hpids hne hq hlast hterm hown hcount
  ⟨H.1, H.2.1, H.2.2.1, H.2.2.2.1, H.2.2.2.2.1, H.2.2.2.2.2.1⟩

/-- non-vacuity: three stages 11, 12, 13 finishing in the order 13 (exit 5), 11 (killed by 9), 12 (exit 0), with an exit
and a stop of other children in between and two more notifications behind: status 5, the two stay pending, the exit is in
the reap map, the stop in the stop set, the table keeps only the other job -/
example :
    (waitFg waitExS 11 [11, 12, 13]).1 =
      { (waitExPre.filter (fun e => !C02.isFg [11, 12, 13] e)).foldl parkF waitExS with
          jobs := waitExS.jobs.filter (fun x => decide (x.id ≠ waitExJ1.id)), pending := waitExPost } ∧
    ∃ el ∈ waitExPre ++ [Ev.exited 12 0], some el.pid = [11, 12, 13].getLast? ∧ (waitFg waitExS 11 [11, 12, 13]).2 = el.status :=
  C06_wait_returns_exactly waitExS 11 [11, 12, 13] waitExJ1 waitExPre waitExPost (.exited 12 0)
    (by decide +kernel) (by decide +kernel) (by decide +kernel) (by decide +kernel) (by decide +kernel) (by decide +kernel) (by decide +kernel) (by decide +kernel) (by decide +kernel)

example : (waitFg waitExS 11 [11, 12, 13]).1 =
    { (waitExPre.filter (fun e => !C02.isFg [11, 12, 13] e)).foldl parkF waitExS with
        jobs := waitExS.jobs.filter (fun x => decide (x.id ≠ waitExJ1.id)), pending := waitExPost } :=
  (C06_wait_returns_exactly waitExS 11 [11, 12, 13] waitExJ1 waitExPre waitExPost (.exited 12 0)
    (by decide +kernel) (by decide +kernel) (by decide +kernel) (by decide +kernel) (by decide +kernel) (by decide +kernel) (by decide +kernel) (by decide +kernel) (by decide +kernel)).1

example :
    (waitFg waitExS 11 [11, 12, 13]).2 = 5 ∧
    (waitFg waitExS 11 [11, 12, 13]).1.pending = [.exited 50 7, .continued 50] ∧
    (waitFg waitExS 11 [11, 12, 13]).1.reap = [(50, 1)] ∧
    (waitFg waitExS 11 [11, 12, 13]).1.stop = [77] ∧
    (waitFg waitExS 11 [11, 12, 13]).1.jobs = [waitExJ2] := by decide +kernel

/-- the guard `hz` of `C06_wait_returns_exactly` is needed for the equality of the whole state -/
theorem C06_wait_gid0_witness :
    let s : Sh := { jobs := [waitExJ1, { id := 2, gid := 0, pids := [77] }],
                    pending := [.stopped 77 19, .exited 13 5, .killed 11 9, .exited 12 0] }
    (waitFg s 11 [11, 12, 13]).1.jobs = [{ id := 2, gid := 0, pids := [77], stoppedSet := [77], status := "Stopped", isBg := true }] ∧
    (waitFg s 11 [11, 12, 13]).1.stop = [77] ∧ (waitFg s 11 [11, 12, 13]).2 = 5 :=
  ⟨wait_gid0_witness.1, wait_gid0_witness.2.1, wait_gid0_witness.2.2.1⟩

end Cicada.C06
