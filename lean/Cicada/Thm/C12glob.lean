import Cicada.Thm.C12
/-!
# C12, filename expansion: the pass refines the reference semantics on whole token lists

`C12_glob_refines` : for EVERY token list and every matcher, when the matcher accepts each pattern it is asked about
(no pattern error) and no unquoted pattern starts with a quote character, `expand_glob` yields exactly `globSpec`: only
unquoted tokens holding `*` are replaced, in place (the relative order of the words of the line is kept), by the matching
non-hidden paths in the matcher's (sorted) order, or kept as they are when nothing visible matches; every produced word
is ONE token.
-/
namespace Cicada.C12
open Cicada

/-- the guard of the theorem, per token; a pattern starting with a quote character is kept as it is by shell.rs:386 even
when it has matches, which `globSpec` does not model -/
def globOk (e : Env) (t : Tok) : Bool :=
  !(t.1 = [] ∧ t.2.contains '*') ||
    ((e.glob t.2).isSome && !((trim t.2).head? = some '\'' ∨ (trim t.2).head? = some '"'))

theorem visible_eq (text p : Str) :
    (!(decide (basename p = ['.', '.']) || decide (basename p = ['.'])) &&
        !(decide ((basename p).head? = some '.') && !startsWith (basename text) ['.', '*'])) = !hiddenFor text p := by
  simp only [hiddenFor, Bool.not_or, Bool.and_comm (!decide (basename p = ['.', '.']))]

theorem globToken_pattern (e : Env) (text : Str) (hc : text.contains '*' = true) (h : globOk e ([], text) = true) :
    globToken e [] text = .items (globWords ((e.glob text).getD []) text) := by
  simp only [globOk, hc, and_self, decide_true, Bool.not_true, Bool.false_or, Bool.and_eq_true,
    Bool.not_eq_true', decide_eq_false_iff_not, not_or] at h
  obtain ⟨hsome, hq1, hq2⟩ := h
  cases hg : e.glob text with
  | none => rw [hg] at hsome; simp at hsome
  | some paths =>
    have hfil : paths.filter (fun p => !(decide (basename p = ['.', '.']) || decide (basename p = ['.'])) &&
        !(decide ((basename p).head? = some '.') && !startsWith (basename text) ['.', '*'])) =
        paths.filter (fun p => !hiddenFor text p) := by
      apply List.filter_congr; intro p _; exact visible_eq text p
    unfold globToken
    simp only [ne_eq, not_true_eq_false, hc, Bool.not_true, Bool.false_eq_true, or_self, ↓reduceIte, hq1, hq2, hg, hfil,
      globWords, Option.getD_some]
    split <;> rfl

theorem globToken_plain (e : Env) (sep text : Str) (h : ¬ (sep = [] ∧ text.contains '*' = true)) :
    globToken e sep text = .unchanged := by
  refine C12_glob_not_pattern e sep text ?_
  by_cases hs : sep = []
  · exact Or.inr (by simpa [hs] using h)
  · exact Or.inl hs

theorem expandGlobGo_spec (e : Env) (ts : List Tok) (h : ts.all (globOk e) = true) :
    expandGlobGo e ts = some (globSpec e.glob ts) := by
  induction ts with
  | nil => rfl
  | cons t rest ih =>
    obtain ⟨sep, text⟩ := t
    simp only [List.all_cons, Bool.and_eq_true] at h
    by_cases hp : sep = [] ∧ text.contains '*' = true
    · obtain ⟨hs, hc⟩ := hp
      subst hs
      have hitem := globToken_pattern e text hc h.1
      have hc' : '*' ∈ text := by simpa using hc
      simp only [expandGlobGo, hitem, ih h.2, Option.map_some, globSpec, List.flatMap_cons]
      simp [hc']
    · have hun := globToken_plain e sep text hp
      have hp' : ¬ (sep = [] ∧ '*' ∈ text) := by simpa using hp
      simp only [expandGlobGo, hun, ih h.2, Option.map_some, globSpec, List.flatMap_cons]
      simp [hp']

/-- **C12 (filename expansion): the pass is the reference semantics** -/
theorem C12_glob_refines (e : Env) (ts : List Tok) (h : ts.all (globOk e) = true) :
    expandGlob e ts = globSpec e.glob ts := by
  simp [expandGlob, expandGlobGo_spec e ts h]

/-- about the reference semantics alone: when nothing visible matches, `globWords` keeps the word -/
theorem C12_glob_only_hidden (word : Str) (found : List Str) (h : ∀ p ∈ found, hiddenFor word p = true) :
    globWords found word = [word] := by
  have : found.filter (fun p => !hiddenFor word p) = [] := by
    rw [List.filter_eq_nil_iff]; intro p hp; simp [h p hp]
  simp [globWords, this]

def wGlob : Str → Option (List Str) := fun p =>
  if p = "*rc".toList then some [".bashrc".toList, ".vimrc".toList]
  else if p = "s*".toList then some ["s p".toList, "sub".toList] else some []
example : [(([] : Str), "prog".toList), ([], "*rc".toList), ([], "s*".toList), (['\''], "*".toList)].all (globOk { glob := wGlob }) = true := by decide +kernel
example : globSpec wGlob [([], "prog".toList), ([], "*rc".toList), ([], "s*".toList), (['\''], "*".toList)] =
    [([], "prog".toList), ([], "*rc".toList), (['"'], "s p".toList), ([], "sub".toList), (['\''], "*".toList)] := by decide +kernel

end Cicada.C12
