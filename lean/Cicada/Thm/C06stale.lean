import Cicada.Model.Jobs
/-!
# C06: the Running / Stopped column looks at the LIVE members only

`Job.allStopped` asks, for every pid still in the job, whether it is in the stopped set (`types.rs: all_members_stopped`).
`remove_pid_from_job` never removes a dead pid from the stopped set, so the set may hold stale pids; they must not count.
Comparing the SIZES of the two collections instead would be wrong: after a member has been stopped and then killed, a job with one
stopped and one running member would look Stopped (the example below).
-/
namespace Cicada.Jobs

/-- a pid that is not a member of the job (any more) may sit in the stopped set without changing the answer -/
theorem C06_allStopped_ignores_stale (j : Job) (p : Pid) (h : p ∉ j.pids) :
    ({ j with stoppedSet := p :: j.stoppedSet } : Job).allStopped = j.allStopped := by
  rw [Bool.eq_iff_iff]
  simp only [Job.allStopped, List.all_eq_true]
  constructor
  · intro H x hx
    have hne : x ≠ p := fun e => h (e ▸ hx)
    have := H x hx
    simpa [List.contains_cons, hne] using this
  · intro H x hx
    have := H x hx
    simp only [List.contains_eq_mem, decide_eq_true_eq] at this
    simp [this]

theorem C06_allStopped_iff (j : Job) : j.allStopped = true ↔ ∀ x ∈ j.pids, x ∈ j.stoppedSet := by
  simp [Job.allStopped, List.all_eq_true]

/-- sizes agree, yet the job is not stopped: members 200 (stopped) and 90 (running), stale pid 300 in the set -/
example : let j : Job := { id := 1, gid := 300, pids := [200, 90], stoppedSet := [300, 200], status := "Running", isBg := true }
    j.stoppedSet.length = j.pids.length ∧ j.allStopped = false := by decide +kernel

end Cicada.Jobs
