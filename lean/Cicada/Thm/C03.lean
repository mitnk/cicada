import Cicada.Lemmas.C03
import Cicada.Lemmas.Lit
/-!
# C03 — command lists run left to right with correct short-circuit and status

`Holds03` is the property on one program.  It is proved for every program whose segments are "list-safe" texts:
arbitrary text — any characters, any quoting, escapes, single `|` and `&` — in which every `#`, `;`, `&&`, `||` is
quoted or backslash-escaped, quotes balance, no backslash dangles, and which is not blank.  `holds_of_guardBg` is the
general statement; `C03_partial` is it under the stronger `guard`, `C03_full_holds` the same as a closed proposition.
-/
namespace Cicada.C03
open Cicada

/-- The property on one program: running the program text through the shell's list evaluation
executes exactly the pipelines the reference semantics prescribes, with the same statuses and
the same final state (`previous_status`, i.e. `$?` and the exit status of `-c`). -/
def Holds03 {σ} (run : σ → Str → σ × Int) (sh : σ) (p : Prog) : Prop :=
  ofLoop (runCommandLine run sh (render p)) = specList run sh p

/-- every segment is list-safe and not blank (`guard`) -/
def WellFormed (p : Prog) : Prop := guard p = true

/-- the property for every well-formed program, every `run_proc`, every state -/
def C03_full : Prop :=
  ∀ (σ : Type) (run : σ → Str → σ × Int) (sh : σ) (p : Prog), WellFormed p → Holds03 run sh p

/-- list splitting: `line_to_cmds` recovers exactly the pipelines and operators of the program -/
theorem C03_split (p : Prog) (hg : guard p = true) :
    lineToCmds (render p) = trim p.first :: itemsRest p.rest :=
  lineToCmds_render p hg

theorem holds_of_guardBg {σ : Type} (run : σ → Str → σ × Int) (sh : σ) (p : Prog) (hg : guardBg p = true) :
    Holds03 run sh p := by
  unfold Holds03 runCommandLine
  rw [lineToCmds_render_bg p hg]
  simp only [guardBg, segOkBg, Bool.and_eq_true, Bool.not_eq_true'] at hg
  exact runItems_items run sh p hg.1.2 (restOkBg_not_sep _ hg.2)

theorem C03_partial {σ : Type} (run : σ → Str → σ × Int) (sh : σ) (p : Prog) (hg : guard p = true) :
    Holds03 run sh p :=
  holds_of_guardBg run sh p (guardBg_of_guard p hg)

theorem C03_full_holds : C03_full := fun _ run sh p hg => C03_partial run sh p hg

/-- the status after the line (`previous_status`, `$?`, the exit status of `-c`) is the one the reference semantics ends
with; that this is the status of the last pipeline executed is `C03_status_final` -/
theorem C03_status_is_last {σ : Type} (run : σ → Str → σ × Int) (sh : σ) (p : Prog) (hg : guard p = true) :
    (runCommandLine run sh (render p)).status = (specList run sh p).status :=
  congrArg Res.status (C03_partial run sh p hg)

/-! ### a loop that `break`s at a short-circuit (`runItemsBreak`) violates the property -/

def wProg : Prog := { first := "false ".toList, rest := [(.and, " a ".toList), (.semi, " b".toList)] }
def wRun : Unit → Str → Unit × Int := fun _ t => ((), if t = "false".toList then 1 else 0)

/-- `false && a ; b`: that loop stops at the short-circuit and never runs `b` -/
theorem C03_snapshot_loop_violates :
    (runItemsBreak wRun { sh := () } (lineToCmds (render wProg))).trace ≠ (specList wRun () wProg).trace := by decide +kernel

/-! ### non-vacuity: the guard admits programs with decoy operators, pipes, escapes -/

example : guard wProg = true := by decide +kernel
example : guard { first := "echo 'a;b' | cat ".toList,
                  rest := [(.or, " x \\; \"&&\" ".toList), (.and, " y & z".toList)] } = true := by
  lit_lists
  decide +kernel
example : (specList wRun () wProg).trace = [("false".toList, 1), ("b".toList, 0)] := by decide +kernel

end Cicada.C03
