import Cicada.Lemmas.KernelChild
/-!
# C08 — running commands never leaks file descriptors, in the shell or into children

Model: `Model/Kernel.lean` (descriptor tables, lowest-free allocation, close-on-exec), `Model/Pipeline.lean`
(`run_pipeline` / `run_single_program` as the exact sequence of descriptor operations of parent and children).

The full statement has two halves:
* the shell: running any pipeline leaves the shell's table exactly as it was — `C08_shell_restored`, proved for EVERY
  non-empty list of commands (any number of stages, any redirections, here-strings, builtin or external, found or not),
  with or without capture, foreground or background, EVERY descriptor limit and EVERY starting table; this covers all
  failure paths (a pipe between stages, a capture pipe or a here-string pipe that cannot be created);
* the children: every stage that reaches `execve` holds, from descriptor 3 on, nothing but what the shell's own table
  passes on at exec — no end of any pipe of the pipeline, no capture pipe, no here-string pipe, no redirection target
  (`C08_child_clean` for one `childRun`, `C08_children_clean` for every child of `runPipeline`); with a shell table
  whose extra descriptors are close-on-exec nothing is open from 3 on (`C08_child_012`);
* a builtin that is the whole line (`builtins::utils`) leaves the table as it was: `C08_builtin_restored`.
Over command sequences the statement follows by induction, since each step restores the table (`C08_seq`).
-/
namespace Cicada.C08
open Cicada.Kernel Cicada.Kernel.Table Cicada.Pipeline

theorem release_restores_next {t0 t : Table} (prev cur : Option Fds) (right : List Fds) (cap : Cap)
    (h : Restores t0 t (prevFds prev ++ fdsOf (cur.toList ++ right) ++ capFds cap)) :
    Restores t0 (release prev cur cap t) (prevFds cur ++ fdsOf right ++ (if cur.isNone then [] else capFds cap)) := by
  cases cur with
  | some c =>
    have h1 : Restores t0 t (c.2 :: (prevFds prev ++ (c.1 :: (fdsOf right ++ capFds cap)))) :=
      restores_congr h (fun x => by simp only [fdsOf, Option.toList_some, List.cons_append, List.nil_append, List.flatMap_cons,
        List.mem_append, List.mem_cons]; grind)
    cases prev with
    | none => exact h1.close
    | some p => exact h1.close.close
  | none =>
    have h1 : Restores t0 t (prevFds prev ++ (capFds cap ++ (fdsOf right ++ []))) :=
      restores_congr h (fun x => by simp only [Option.toList_none, List.nil_append, List.append_nil, List.mem_append]; grind)
    cases prev with
    | none => exact closeCap_head Restores.close cap h1
    | some p => exact closeCap_head Restores.close cap h1.close

theorem parentStage_restores (cfg : Cfg) (c : Command) (i : Nat) (prev : Option Fds) (rest : List Fds) (cap : Cap)
    (capture bg : Bool) (s : PState) {t0 : Table} (hR : Restores t0 s.shell (prevFds prev ++ fdsOf rest ++ capFds cap)) :
    Restores t0 (parentStage cfg c i prev rest.head? rest.tail cap capture bg s).shell
      (prevFds rest.head? ++ fdsOf rest.tail ++ (if rest.head?.isNone then [] else capFds cap)) := by
  rw [parentStage_shell]
  apply release_restores_next
  rwa [show rest.head?.toList ++ rest.tail = rest by cases rest <;> rfl]

/-- the `for i in 0..length` loop releases everything: if the table before stage `i` is the original one plus
(the read end of the previous pipe, the pipes from `i` on, the capture pipes), the table after the loop is the original one -/
theorem parentLoop_restores (cfg : Cfg) (cap : Cap) (capture bg : Bool) (t0 : Table) :
    ∀ (cmds : List Command) (prev : Option Fds) (rest : List Fds) (i : Nat) (s : PState),
      cmds ≠ [] → rest.length + 1 = cmds.length →
      Restores t0 s.shell (prevFds prev ++ fdsOf rest ++ capFds cap) →
      (parentLoop cfg cap capture bg prev rest cmds i s).shell = t0 := by
  intro cmds
  induction cmds with
  | nil => intro _ _ _ _ h; exact absurd rfl h
  | cons c cs ih =>
    intro prev rest i s _ hlen hR
    have hR' := parentStage_restores cfg c i prev rest cap capture bg s hR
    unfold parentLoop
    cases cs with
    | nil =>
      -- the last stage: no pipe to the right, the capture pipes are released
      have hrest : rest = [] := List.eq_nil_of_length_eq_zero (by simpa using hlen)
      subst hrest
      rw [parentLoop]
      exact restores_nil hR'
    | cons c' cs' =>
      cases rest with
      | nil => simp at hlen
      | cons p rest' => exact ih _ _ _ _ (by simp) (by simpa using hlen) hR'

/-- no close-on-exec entry beyond those of `t0` (pipes are created without the flag); `fromFork_inv` (Thm/C08nested) starts from it -/
def NoNewCx (t0 t : Table) : Prop := ∀ x e, t x = some e → e.cx = true → t0 x = some e

theorem noNewCx_pipe {t0 t t2 : Table} {lim k r w : Nat} (h : NoNewCx t0 t) (hp : t.pipe lim k = some (t2, r, w)) :
    NoNewCx t0 t2 := by
  obtain ⟨_, _, _, rfl⟩ := pipe_spec hp
  intro x e he hc
  simp only [set_apply] at he
  split at he
  · cases he; cases hc
  · split at he
    · cases he; cases hc
    · exact h x e he hc

theorem noNewCx_release {t0 t : Table} (prev cur : Option Fds) (cap : Cap) (h : NoNewCx t0 t) :
    NoNewCx t0 (release prev cur cap t) := by
  intro x e he hc
  rw [release_apply] at he
  split at he
  · cases he
  · exact h x e he hc

theorem mkPipes_noNewCx {t0 : Table} (lim : Nat) : ∀ (n : Nat) (t : Table) (np : Nat) (acc : List Fds),
    NoNewCx t0 t → NoNewCx t0 (mkPipes lim n t np acc).1 :=
  mkPipes_induct lim (P := fun t _ => NoNewCx t0 t) noNewCx_pipe

/-- the recorded child is the result of `childRun` on a table that is `t0` plus what the parent holds for the stage at
`fork`, without any new close-on-exec entry -/
def FromFork (cfg : Cfg) (capture : Bool) (t0 : Table) (c : Nat × ChildEnd × List (Str × Nat)) : Prop :=
  ∃ (cmd : Command) (prev cur : Option Fds) (right : List Fds) (cap : Cap) (hs : Option Fds) (tf : Table),
    Restores t0 tf (heldAtFork prev cur right cap hs) ∧ NoNewCx t0 tf ∧
    (cmd.isHere = false → hs = none) ∧ (capture = false → cap = (none, none)) ∧
    c.2 = childRun cfg cmd prev cur right cap hs capture tf

theorem parentStage_fromFork (cfg : Cfg) (cmd : Command) (i : Nat) (prev cur : Option Fds) (right : List Fds) (cap : Cap)
    (capture bg : Bool) (s : PState) (t0 : Table)
    (hcap : capture = false → cap = (none, none))
    (hR : Restores t0 s.shell (prevFds prev ++ fdsOf (cur.toList ++ right) ++ capFds cap))
    (hN : NoNewCx t0 s.shell)
    (hgood : ∀ c ∈ s.children, FromFork cfg capture t0 c) :
    ∀ c ∈ (parentStage cfg cmd i prev cur right cap capture bg s).children, FromFork cfg capture t0 c := by
  unfold parentStage
  by_cases hh : cmd.isHere = true
  · simp only [hh, ↓reduceIte]
    cases hp : s.shell.pipe cfg.lim s.np with
    | none => exact hgood
    | some q =>
      obtain ⟨t1, r, w⟩ := q
      intro c hc
      rcases List.mem_append.mp hc with hc | hc
      · exact hgood c hc
      · cases List.mem_singleton.mp hc
        exact ⟨cmd, prev, cur, right, cap, some (r, w), t1, by rw [heldAtFork_eq]; exact restores_pipe hR hp,
          noNewCx_pipe hN hp, by simp [hh], hcap, rfl⟩
  · simp only [hh]
    intro c hc
    rcases List.mem_append.mp hc with hc | hc
    · exact hgood c hc
    · cases List.mem_singleton.mp hc
      exact ⟨cmd, prev, cur, right, cap, none, s.shell, by rw [heldAtFork_eq, optFds, List.append_nil]; exact hR,
        hN, fun _ => rfl, hcap, rfl⟩

theorem parentLoop_fromFork (cfg : Cfg) (cap : Cap) (capture bg : Bool) (t0 : Table)
    (hcap : capture = false → cap = (none, none)) :
    ∀ (cmds : List Command) (prev : Option Fds) (rest : List Fds) (i : Nat) (s : PState),
      Restores t0 s.shell (prevFds prev ++ fdsOf rest ++ capFds cap) → NoNewCx t0 s.shell →
      (∀ c ∈ s.children, FromFork cfg capture t0 c) →
      ∀ c ∈ (parentLoop cfg cap capture bg prev rest cmds i s).children, FromFork cfg capture t0 c := by
  intro cmds
  induction cmds with
  | nil => intro _ _ _ s _ _ hg; exact hg
  | cons c cs ih =>
    intro prev rest i s hR hN hg
    unfold parentLoop
    have hrest : rest.head?.toList ++ rest.tail = rest := by cases rest <;> rfl
    have hR' := parentStage_restores cfg c i prev rest cap capture bg s hR
    apply ih
    · -- the capture pipes are only released by the last stage; the invariant keeps them listed, they are free in `t0`
      refine restores_mono hR' (fun x hx => ?_) (fun x hx => ?_)
      · simp only [List.mem_append] at hx ⊢
        rcases hx with hx | hx
        · exact Or.inl hx
        · right; split at hx
          · cases hx
          · exact hx
      · simp only [List.mem_append] at hx
        rcases hx with hx | hx
        · exact hR'.2 x (List.mem_append.mpr (Or.inl (List.mem_append.mpr hx)))
        · exact hR.2 x (List.mem_append.mpr (Or.inr hx))
    · rw [parentStage_shell]; exact noNewCx_release _ _ _ hN
    · exact parentStage_fromFork cfg c i prev rest.head? rest.tail cap capture bg s t0 hcap (by rw [hrest]; exact hR) hN hg

/-- the last two conjuncts are for `C02_wiring`, which needs what `mkPipes_wired` knows about `pipes` and `t1` -/
theorem runPipeline_ran (cfg : Cfg) (cmds : List Command) (capture bg : Bool) (t0 : Table) (np : Nat) :
    ((runPipeline cfg cmds capture bg t0 np).shell = t0 ∧ (runPipeline cfg cmds capture bg t0 np).children = []) ∨
    ∃ (t1 : Table) (np1 : Nat) (pipes : List Fds) (cap : Cap),
      Restores t0 t1 (fdsOf pipes ++ capFds cap) ∧ NoNewCx t0 t1 ∧ (capture = false → cap = (none, none)) ∧
      pipes.length = cmds.length - 1 ∧
      (runPipeline cfg cmds capture bg t0 np).shell =
        (parentLoop cfg cap capture bg none pipes cmds 0 { shell := t1, np := np1 }).shell ∧
      (runPipeline cfg cmds capture bg t0 np).children =
        (parentLoop cfg cap capture bg none pipes cmds 0 { shell := t1, np := np1 }).children ∧
      (mkPipes cfg.lim (cmds.length - 1) t0 np []).2.2.1 = pipes ∧
      (capture = false → (mkPipes cfg.lim (cmds.length - 1) t0 np []).1 = t1) := by
  unfold runPipeline
  by_cases hbc : bg = true ∧ capture = true
  · rw [if_pos hbc]; exact Or.inl ⟨rfl, rfl⟩
  · simp only [hbc, ↓reduceIte]
    have hR := mkPipes_restores cfg.lim t0 (cmds.length - 1) t0 np [] (restores_refl t0)
    have hL := mkPipes_length cfg.lim (cmds.length - 1) t0 np []
    have hN := mkPipes_noNewCx (t0 := t0) cfg.lim (cmds.length - 1) t0 np [] (fun x e he _ => he)
    generalize mkPipes cfg.lim (cmds.length - 1) t0 np [] = r at hR hL hN ⊢
    obtain ⟨t1, np1, pipes, ok⟩ := r
    simp only at hR hL hN ⊢
    cases ok with
    | false => exact Or.inl ⟨release_restores hR, rfl⟩
    | true =>
      have hlen : pipes.length = cmds.length - 1 := by simpa using hL rfl
      cases capture with
      | false =>
        exact Or.inr ⟨t1, np1, pipes, (none, none), by simpa [capFds] using hR, hN, fun _ => rfl, hlen, rfl, rfl, rfl, fun _ => rfl⟩
      | true =>
        simp only [Bool.not_true, Bool.false_eq_true, ↓reduceIte]
        cases hp1 : t1.pipe cfg.lim np1 with
        | none => exact Or.inl ⟨release_restores hR, rfl⟩
        | some q1 =>
          obtain ⟨t2, r, w⟩ := q1
          simp only
          cases hp2 : t2.pipe cfg.lim (np1 + 1) with
          | none => exact Or.inl ⟨by simp only [closePair_pipe hp1]; exact release_restores hR, rfl⟩
          | some q2 =>
            obtain ⟨t3, r', w'⟩ := q2
            have h3 := restores_pipe (restores_pipe hR hp1) hp2
            rw [List.append_assoc] at h3
            exact Or.inr ⟨t3, np1 + 2, pipes, (some (r, w), some (r', w')), h3, noNewCx_pipe (noNewCx_pipe hN hp1) hp2,
              (fun h => by cases h), hlen, rfl, rfl, rfl, (fun h => by cases h)⟩

/-- **the shell's table is restored** by `run_pipeline`, whatever the commands, the capture mode, the background
flag, the descriptor limit and the table it starts from — including every path on which a `pipe` call fails -/
theorem C08_shell_restored (cfg : Cfg) (cmds : List Command) (capture bg : Bool) (t0 : Table) (np : Nat)
    (hne : cmds ≠ []) : (runPipeline cfg cmds capture bg t0 np).shell = t0 := by
  rcases runPipeline_ran cfg cmds capture bg t0 np with ⟨h, _⟩ | ⟨t1, np1, pipes, cap, hR, _, _, hlen, hsh, _, _, _⟩
  · exact h
  · rw [hsh]
    have := List.length_pos_iff.mpr hne
    exact parentLoop_restores cfg cap capture bg t0 cmds none pipes 0 _ hne (by omega) hR

/-- **sequences**: running any list of pipelines one after the other leaves the table as it was -/
theorem C08_seq (cfg : Cfg) (t0 : Table) : ∀ (plans : List (List Command × Bool × Bool)) (np : Nat),
    (∀ p ∈ plans, p.1 ≠ []) →
    (plans.foldl (fun (st : Table × Nat) p => let r := runPipeline cfg p.1 p.2.1 p.2.2 st.1 st.2; (r.shell, r.np)) (t0, np)).1 = t0 := by
  intro plans
  induction plans with
  | nil => intro np _; rfl
  | cons p ps ih =>
    intro np h
    simp only [List.foldl_cons]
    rw [C08_shell_restored cfg p.1 p.2.1 p.2.2 t0 np (h p List.mem_cons_self)]
    exact ih _ (fun q hq => h q (List.mem_cons_of_mem _ hq))

/-- **every recorded child of `run_pipeline` is `childRun` on the shell's table plus what is held for it** -/
theorem children_fromFork (cfg : Cfg) (cmds : List Command) (capture bg : Bool) (t0 : Table) (np : Nat) :
    ∀ c ∈ (runPipeline cfg cmds capture bg t0 np).children, FromFork cfg capture t0 c := by
  rcases runPipeline_ran cfg cmds capture bg t0 np with ⟨_, h⟩ | ⟨t1, np1, pipes, cap, hR, hN, hcap, _, _, hch, _, _⟩
  · rw [h]; intro c hc; cases hc
  · rw [hch]
    exact parentLoop_fromFork cfg cap capture bg t0 hcap cmds none pipes 0 _ hR hN (fun c hc => by cases hc)

theorem cleanUpTo_of_restores {t0 t : Table} {O : List Nat} (h : Restores t0 t O)
    (h0 : (t0 0).isSome) (h1 : (t0 1).isSome) (h2 : (t0 2).isSome) : CleanUpTo t0 t O := by
  have hstd : ∀ x, x < 3 → x ∉ O := by
    intro x hx hO
    have := h.2 x hO
    have : x = 0 ∨ x = 1 ∨ x = 2 := by omega
    rcases this with rfl | rfl | rfl <;> simp_all
  refine ⟨fun x _ hx => atExec_congr (h.1 x hx), ?_, ?_, ?_, ?_⟩
  · intro x hx
    refine ⟨h.2 x hx, ?_⟩
    rcases Nat.lt_or_ge x 3 with hlt | hge
    · exact absurd hx (hstd x hlt)
    · exact hge
  · rw [h.1 0 (hstd 0 (by omega))]; exact h0
  · rw [h.1 1 (hstd 1 (by omega))]; exact h1
  · rw [h.1 2 (hstd 2 (by omega))]; exact h2

/-- **no descriptor leaks into a child**: if the table a stage inherits at `fork` is the shell's original table `t0`
plus (the read end of the previous pipe, the stage's own pipe, the pipes to the right, the capture pipes, the
here-string pipe) — which is what the parent holds at that point — then whatever the stage's redirections are,
the program it execs sees from descriptor 3 on exactly what `t0` itself would pass on at exec. -/
theorem C08_child_clean (cfg : Cfg) (cmd : Command) (prev cur : Option Fds) (right : List Fds) (cap : Cap) (hs : Option Fds)
    (capture : Bool) (t0 tf : Table)
    (h0 : (t0 0).isSome) (h1 : (t0 1).isSome) (h2 : (t0 2).isSome)
    (hR : Restores t0 tf (heldAtFork prev cur right cap hs))
    (hhs : cmd.isHere = false → hs = none) (hcap : capture = false → cap = (none, none))
    (argv : List Str) (tc : Table) (lg : List (Str × Nat))
    (hrun : childRun cfg cmd prev cur right cap hs capture tf = (.exec argv tc, lg)) :
    ∀ x, 3 ≤ x → tc x = t0.atExec x := by
  rcases childRun_inv (cleanUpTo_childInv t0) (cleanUpTo_of_restores hR h0 h1 h2) hhs hcap hrun with
    ⟨c, hc⟩ | ⟨tfin, hcl, hb | he | hn⟩
  · cases hc
  · cases hb
  · cases he
    exact fun x hx => hcl.same x hx List.not_mem_nil
  · cases hn

/-- with a shell table whose descriptors from 3 on are all close-on-exec (the script file, Rust-opened files),
every program starts with exactly 0, 1 and 2 -/
theorem C08_child_012 (cfg : Cfg) (cmd : Command) (prev cur : Option Fds) (right : List Fds) (cap : Cap) (hs : Option Fds)
    (capture : Bool) (t0 tf : Table)
    (h0 : (t0 0).isSome) (h1 : (t0 1).isSome) (h2 : (t0 2).isSome)
    (hcx : ∀ x e, 3 ≤ x → t0 x = some e → e.cx = true)
    (hR : Restores t0 tf (heldAtFork prev cur right cap hs))
    (hhs : cmd.isHere = false → hs = none) (hcap : capture = false → cap = (none, none))
    (argv : List Str) (tc : Table) (lg : List (Str × Nat))
    (hrun : childRun cfg cmd prev cur right cap hs capture tf = (.exec argv tc, lg)) :
    ∀ x, 3 ≤ x → tc x = none := by
  intro x hx
  rw [C08_child_clean cfg cmd prev cur right cap hs capture t0 tf h0 h1 h2 hR hhs hcap argv tc lg hrun x hx]
  exact atExec_none_of_cx (fun e he => hcx x e hx he)

def GoodChild (t0 : Table) (c : Nat × ChildEnd × List (Str × Nat)) : Prop :=
  ∀ argv tc, c.2.1 = .exec argv tc → ∀ x, 3 ≤ x → tc x = t0.atExec x

/-- **every program started by `run_pipeline` is clean**: from descriptor 3 on it holds exactly what the shell's own
table passes on at exec — for every list of commands, capture mode, background flag, limit and starting table
with 0, 1, 2 open -/
theorem C08_children_clean (cfg : Cfg) (cmds : List Command) (capture bg : Bool) (t0 : Table) (np : Nat)
    (h0 : (t0 0).isSome) (h1 : (t0 1).isSome) (h2 : (t0 2).isSome) :
    ∀ c ∈ (runPipeline cfg cmds capture bg t0 np).children, GoodChild t0 c := by
  intro c hc argv tc he
  obtain ⟨cmd, prev, cur, right, cap, hs, tf, hR, _, hhs, hcap, hrun⟩ := children_fromFork cfg cmds capture bg t0 np c hc
  exact C08_child_clean cfg cmd prev cur right cap hs capture t0 tf h0 h1 h2 hR hhs hcap argv tc c.2.2 (by rw [← hrun, ← he])

/-! ### builtins that are the whole line (`builtins::utils`) -/

def optNat : Option Nat → List Nat
  | some n => [n]
  | none => []

theorem restores_closeOptFd {t0 t : Table} {O O' : List Nat} (c : Option Nat) (h : Restores t0 t O)
    (hO : ∀ x, x ∈ O ↔ x ∈ optNat c ∨ x ∈ O') : Restores t0 (closeOptFd t c) O' := by
  cases c with
  | none => exact restores_congr h (fun x => by simpa [optNat] using hO x)
  | some fd => exact (restores_congr (O' := fd :: O') h (fun x => by simpa [optNat] using hO x)).close

theorem getStdFdsGo_restores (cfg : Cfg) (t0 : Table) : ∀ (rs : List Redir) (t : Table) (o e : Option Nat) (lg : List (Str × Nat)),
    Restores t0 t (optNat o ++ optNat e) →
    Restores t0 (getStdFdsGo cfg rs t o e lg).1
      (optNat (getStdFdsGo cfg rs t o e lg).2.1 ++ optNat (getStdFdsGo cfg rs t o e lg).2.2.1) := by
  intro rs
  induction rs with
  | nil => intro t o e lg h; exact h
  | cons r rs ih =>
    intro t o e lg h
    obtain ⟨from_, op, to⟩ := r
    unfold getStdFdsGo
    simp only
    split
    · exact ih t o e lg h
    · -- with the new candidate, if there is one
      have hR1 : Restores t0 (candFd cfg t o e lg (decide (from_ = "1".toList)) op to).1
          (optNat (candFd cfg t o e lg (decide (from_ = "1".toList)) op to).2.1 ++ (optNat o ++ optNat e)) := by
        rcases candFd_cases cfg t o e lg (decide (from_ = "1".toList)) op to with ⟨h1, h2⟩ | ⟨en, fd, ha, h2, _⟩
        · rw [h1, h2]; exact h
        · rw [h2]; exact restores_alloc h ha
      generalize candFd cfg t o e lg (decide (from_ = "1".toList)) op to = c at hR1
      split
      · exact ih _ _ _ _ (restores_closeOptFd o hR1 (fun x => by simp only [List.mem_append]; exact or_left_comm))
      · exact ih _ _ _ _ (restores_closeOptFd e hR1 (fun x => by simp only [List.mem_append]; grind))

theorem finishPrint_restores (cfg : Cfg) (err : Bool) (t0 t1 : Table) (mine other : Option Nat) (lg : List (Str × Nat))
    (hR : Restores t0 t1 (optNat mine ++ optNat other)) : (finishPrint cfg err t1 mine other lg).t = t0 := by
  unfold finishPrint
  have h2 : Restores t0 (closeOptFd t1 other) (optNat mine) :=
    restores_closeOptFd other hR (fun x => by simp only [List.mem_append]; exact or_comm)
  generalize closeOptFd t1 other = t2 at h2
  simp only
  cases mine with
  | some fd =>
    exact restores_nil (restores_closeOptFd (some fd) h2 (fun x => by simp [optNat]))
  | none =>
    have h2' : t2 = t0 := restores_nil h2
    simp only
    cases hd : t2.dup cfg.lim (if err then 2 else 1) with
    | none => exact h2'
    | some p =>
      obtain ⟨t3, fd⟩ := p
      obtain ⟨en, _, ha⟩ := dup_some hd
      obtain ⟨hf, rfl⟩ := alloc_spec ha
      exact (close_set_free _ hf).trans h2'

/-- **a builtin that is the whole line leaves the shell's table as it was**, whatever its redirections (any number,
any order, openable or not), whichever stream it prints to, for every limit and every starting table -/
theorem C08_builtin_restored (cfg : Cfg) (rs : List Redir) (err : Bool) (t0 : Table) : (builtinPrint cfg rs err t0).t = t0 := by
  unfold builtinPrint getStdFds
  have h := getStdFdsGo_restores cfg t0 rs t0 none none [] (by simpa [optNat] using restores_refl t0)
  cases err with
  | true =>
    simp only [↓reduceIte]
    exact finishPrint_restores cfg true t0 _ _ _ _ (restores_congr h (by intro x; simp only [List.mem_append]; exact Or.comm))
  | false =>
    simp only [Bool.false_eq_true, ↓reduceIte]
    exact finishPrint_restores cfg false t0 _ _ _ _ h

/-- the script-mode starting table: 0, 1, 2 inherited, the script file at 3 close-on-exec -/
def exT0 : Table := fun fd => if fd < 3 then some { obj := .inh fd } else if fd = 3 then some { obj := .inh 3, cx := true } else none

def exCmd (n : Char) (r : List Redir) (f : Option Tok) : Command := { tokens := [([], [n])], redirectsTo := r, redirectFrom := f }

/-- `a | b 2>&1 <<< w | c > f` -/
def exRes : Result :=
  runPipeline { lim := 16 } [exCmd 'a' [] none, exCmd 'b' [(['2'], ['>'], ['&', '1'])] (some (['<', '<', '<'], ['w'])), exCmd 'c' [(['1'], ['>'], ['f'])] none]
    false false exT0 0

def childView : Option (Nat × ChildEnd × List (Str × Nat)) → Option (List (Nat × Obj))
  | some (_, .exec _ t, _) => some ((t.toList 16).map (fun (fd, e) => (fd, e.obj)))
  | _ => none

/-- non-vacuity: the starting table meets the hypotheses of the theorems, the three-stage pipeline with a here-string
and redirections really forks three children, the middle one holds exactly {0, 1, 2} (the here-string pipe on 0, its
output pipe on 1 and 2), the last one has the file on 1, and the shell's table is back to the start -/
example : (exT0 0).isSome ∧ (exT0 1).isSome ∧ (exT0 2).isSome ∧
    exRes.children.length = 3 ∧
    childView exRes.children[1]? = some [(0, .pipeR 2), (1, .pipeW 1), (2, .pipeW 1)] ∧
    childView exRes.children[2]? = some [(0, .pipeR 1), (1, .file ['f'] 1), (2, .inh 2)] ∧
    (exRes.shell.toList 16).map (·.1) = [0, 1, 2, 3] := by
  decide +kernel

end Cicada.C08
