import Cicada.Model.ParserLine
import Cicada.Model.Calc
import Cicada.Lemmas.Lit
import Cicada.Lemmas.Str
/-!
# C19 / C16 — an arithmetic line survives the script interpreter's re-rendering

`parse_line` (parser_line.rs:167-172) starts with `if tools::is_arithmetic(line) { for x in line.split(' ') { push(("", x)) } return }`:
an arithmetic line is cut at its blanks into tokens with EMPTY tags (one token iff the line has no blank), and
`tokens_to_line` writes a tag-less token verbatim and joins by one blank.  Hence re-rendering is the identity on
every arithmetic line (blanks, parentheses, a leading sign: the parentheses of `-2 * (3 + 4)` stay), and the
calculator sees the same text.
-/
namespace Cicada.C19R
open Cicada

theorem split_blank_two (l : Str) (h : ' ' ∈ l) : 2 ≤ (splitOnChar ' ' l).length := by
  induction l with
  | nil => cases h
  | cons x xs ih =>
    obtain ⟨p, ps, hs, e⟩ := splitOnChar_cons ' ' x xs
    rw [e]
    split
    · exact Nat.le_add_left 2 _
    · rename_i hx
      have := ih ((List.mem_cons.mp h).resolve_left (fun e => hx e.symm))
      rwa [hs] at this

theorem t2l_tagless (ws : List Str) : tokensToLine (ws.map (fun x => (([] : Str), x))) = joinWith [' '] ws := by
  simp [tokensToLine, tokenToText, Function.comp_def]

/-- **the token list of an arithmetic line**: the pieces between blanks, every tag empty; the line is complete -/
theorem C19_arith_line_tokens (l : Str) (ha : isArithmetic l = true) :
    parseLine l = (splitOnChar ' ' l).map (fun x => (([] : Str), x)) ∧ (parseLineInfo l).complete = true := by
  simp [parseLine, parseLineInfo, ha]

theorem C19_arith_line_tagless (l : Str) (ha : isArithmetic l = true) : ∀ t ∈ parseLine l, t.1 = [] := by
  rw [(C19_arith_line_tokens l ha).1]
  intro t ht
  simp only [List.mem_map] at ht
  obtain ⟨_, _, rfl⟩ := ht
  rfl

/-- **one token**: an arithmetic line without a blank is ONE token with an empty tag -/
theorem C19_arith_line_one_token (l : Str) (ha : isArithmetic l = true) (hb : l.contains ' ' = false) :
    parseLine l = [([], l)] := by
  have hb' : ∀ c ∈ l, c ≠ ' ' := by
    intro c hc hcb; subst hcb
    have : l.contains ' ' = true := by simpa using hc
    rw [hb] at this; cases this
  rw [(C19_arith_line_tokens l ha).1, splitOnChar_of_forall_ne ' ' l hb']; rfl

/-- ... and exactly then: `line.split(' ')` cuts at every blank -/
theorem C19_arith_line_one_token_iff (l : Str) (ha : isArithmetic l = true) :
    parseLine l = [([], l)] ↔ l.contains ' ' = false := by
  constructor
  · intro h
    by_cases hb : l.contains ' ' = true
    · have hin : ' ' ∈ l := by simpa using hb
      have h2 := split_blank_two l hin
      have hl := congrArg List.length h
      rw [(C19_arith_line_tokens l ha).1] at hl
      simp at hl; omega
    · simpa using hb
  · exact C19_arith_line_one_token l ha

/-- **re-rendering is the identity on every arithmetic line** (blanks, parentheses, leading sign all kept) -/
theorem C19_arith_line_rerender (l : Str) (ha : isArithmetic l = true) : tokensToLine (parseLine l) = l := by
  rw [(C19_arith_line_tokens l ha).1, t2l_tagless, joinWith_splitOnChar]

/-- the re-rendered text is still arithmetic and the calculator gives the same result on it -/
theorem C19_arith_line_calc (l : Str) (ha : isArithmetic l = true) :
    isArithmetic (tokensToLine (parseLine l)) = true ∧
      Calc.runCalculator (tokensToLine (parseLine l)) = Calc.runCalculator l := by
  rw [C19_arith_line_rerender l ha]; exact ⟨ha, rfl⟩

/-- a signed literal in front of a parenthesised group: arithmetic, five tag-less tokens, re-rendered unchanged -/
example : isArithmetic "-2 * (3 + 4)".toList = true ∧
    parseLine "-2 * (3 + 4)".toList =
      [([], "-2".toList), ([], "*".toList), ([], "(3".toList), ([], "+".toList), ([], "4)".toList)] ∧
    tokensToLine (parseLine "-2 * (3 + 4)".toList) = "-2 * (3 + 4)".toList := by
  lit_lists
  decide +kernel
example : tokensToLine (parseLine "-2 * (3 + 4)".toList) = "-2 * (3 + 4)".toList :=
  C19_arith_line_rerender _ (by
    lit_lists
    decide +kernel)
example : Calc.runCalculator (tokensToLine (parseLine "-2 * (3 + 4)".toList)) = .ok (.int (-14)) := by
  lit_lists
  decide +kernel
/-- a line with blanks is NOT one token `[([], l)]`: the Rust code splits an arithmetic line at its blanks too -/
example : isArithmetic "-2 * (3 + 4)".toList = true ∧ parseLine "-2 * (3 + 4)".toList ≠ [([], "-2 * (3 + 4)".toList)] := by
  lit_lists
  decide +kernel
/-- one token, with a leading sign and parentheses -/
example : isArithmetic "-2*(3+4)".toList = true ∧ "-2*(3+4)".toList.contains ' ' = false ∧
    parseLine "-2*(3+4)".toList = [([], "-2*(3+4)".toList)] := by
  lit_lists
  decide +kernel
example : isArithmetic "+2 * (3 + 4) ".toList = true ∧
    tokensToLine (parseLine "+2 * (3 + 4) ".toList) = "+2 * (3 + 4) ".toList := by
  lit_lists
  decide +kernel

end Cicada.C19R

#print axioms Cicada.C19R.C19_arith_line_tokens
#print axioms Cicada.C19R.C19_arith_line_one_token
#print axioms Cicada.C19R.C19_arith_line_one_token_iff
#print axioms Cicada.C19R.C19_arith_line_rerender
#print axioms Cicada.C19R.C19_arith_line_calc
