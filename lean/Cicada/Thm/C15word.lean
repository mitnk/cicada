import Cicada.Lemmas.Lit
import Cicada.Lemmas.C15Word
/-!
# C15 (word level) — `$0 $1 ${n} $@ ${@}` in whole words and token lists

`Holds15 args w` : expanding the rendered word with the model's `expandArgsTok` (= `expand_args_for_single_token`)
yields exactly the concatenation of the segment values — every `$n`, `${n}` replaced by the n-th argument (nothing if
there is none), `$@` / `${@}` by the arguments from the first on joined by blanks, the adjacent text preserved, and
**the inserted values not scanned again** (the statement quantifies over all argument lists: an argument may itself
be the text `$1`, hold a newline, …).  The statement mentions no fuel.

The guard `wwordOk` of `C15_word_full` excludes only literal segments holding `$` or a newline, `$n` directly followed by a
digit (genuinely ambiguous: it is read as the longer number) and `$n` / `$@` directly followed by `}` (the code swallows the
brace — a finding, `$1}` loses its `}`); what happens in these cases instead is stated too.  `${n}` and `${@}` may be followed by
anything.  At token level single- and back-quoted tokens are untouched and every other token is expanded: the gate
`is_args_in_token` never blocks a reference.  (When the pass leaves a token list alone is C16: `Thm/C16.lean`.)
-/
namespace Cicada.C15
open Cicada

def Holds15 (args : List Str) (w : List WSeg) : Prop := expandArgsTok args (wrender w) = wspecArgs args w

/-- every argument list (any values), every well-formed word -/
def C15_word : Prop := ∀ (args : List Str) (w : List WSeg), wwordOk w = true → Holds15 args w

theorem wsegOk_noNl (after : Str) (s : WSeg) (h : wsegOk after s = true) : noNl s.render = true := by
  cases s with
  | lit t =>
    simp only [wsegOk, wlitOk, List.all_eq_true, Bool.and_eq_true, decide_eq_true_eq] at h
    simp only [WSeg.render, noNl, List.all_eq_true, decide_eq_true_eq]
    exact fun c hc => (h c hc).2
  | pos d =>
    simp only [wsegOk, Bool.and_eq_true] at h
    simp only [WSeg.render, noNl_cons, noNl_digits d h.1]; decide
  | bpos d =>
    simp only [wsegOk] at h
    simp only [WSeg.render, noNl_cons, noNl_append_iff, noNl_digits d h]; decide
  | all => decide
  | ball => decide

theorem wwordOk_noNl (w : List WSeg) (h : wwordOk w = true) : noNl (wrender w) = true := by
  induction w with
  | nil => rfl
  | cons s ss ih =>
    simp only [wwordOk, Bool.and_eq_true] at h
    rw [wrender_cons, noNl_append_iff, wsegOk_noNl _ s h.1, ih h.2]; rfl

theorem expandArgsTok_seg (args : List Str) (s : WSeg) (after : Str) (hs : wsegOk after s = true) (hn : noNl after = true) :
    expandArgsTok args (s.render ++ after) = s.value args ++ expandArgsTok args after := by
  have hnl : noNl (s.render ++ after) = true := by rw [noNl_append_iff, wsegOk_noNl after s hs, hn]; rfl
  cases s with
  | lit t =>
    simp only [wsegOk, wlitOk, List.all_eq_true, Bool.and_eq_true, decide_eq_true_eq] at hs
    exact expandArgsTok_lits args t after (fun c hc => (hs c hc).1) hnl
  | pos d =>
    simp only [wsegOk, Bool.and_eq_true] at hs
    refine expandArgsTok_ref args (d ++ after) d after hnl (argRefAt_pos d after hs.1 fun c hc => ?_)
    have := hs.2
    rw [hc] at this
    simpa using this
  | bpos d =>
    simp only [WSeg.render, WSeg.value, List.cons_append, List.append_assoc, List.nil_append] at hnl ⊢
    exact expandArgsTok_ref args _ d after hnl (argRefAt_bpos d after hs)
  | all =>
    have := expandArgsTok_ref args ('@' :: after) ['@'] after hnl (argRefAt_all after fun c hc => ?_)
    · simpa [WSeg.render, WSeg.value, argValue] using this
    · simp only [wsegOk, hc] at hs
      simpa using hs
  | ball =>
    have := expandArgsTok_ref args _ ['@'] after hnl (argRefAt_ball after)
    simpa [WSeg.render, WSeg.value, argValue] using this

/-- **C15 (one word).**  Every reference is replaced by the argument it names, exactly once; everything else is kept. -/
theorem C15_word_full : C15_word := by
  intro args w
  induction w with
  | nil => intro _; simp [Holds15, wrender, wspecArgs, expandArgsTok_nil]
  | cons s ss ih =>
    intro hok
    simp only [wwordOk, Bool.and_eq_true] at hok
    unfold Holds15
    rw [wrender_cons, wspecArgs_cons, expandArgsTok_seg args s _ hok.1 (wwordOk_noNl ss hok.2), ih hok.2]

/-- the same in the vocabulary of `Spec/C15.lean` (`specArgs`, `wordOk`: the oracle of the correspondence stream) -/
theorem C15_word_spec (args : List Str) (w : List Seg) (hok : wordOk w = true) :
    expandArgsTok args (render w) = specArgs args w := by
  have := C15_word_full args (w.map WSeg.ofSeg) (wwordOk_ofSeg w hok)
  rwa [Holds15, wrender_ofSeg, wspecArgs_ofSeg] at this

/-- the expected token after the pass -/
def specTok (args : List Str) (x : Str × List WSeg) : Tok :=
  (x.1, if hardQuoted x.1 then wrender x.2 else wspecArgs args x.2)

/-- **C15 (token lists).**  Single- and back-quoted tokens come out untouched, all the others (unquoted, `"`, …) expanded. -/
theorem C15_tokens_full (args : List Str) (ts : List (Str × List WSeg)) (hok : ∀ x ∈ ts, wwordOk x.2 = true) :
    expandArgsInTokens args (ts.map (fun x => (x.1, wrender x.2))) = ts.map (specTok args) := by
  rw [expandArgsInTokens_eq_map, List.map_map]
  apply List.map_congr_left
  intro x hx
  have := C15_word_full args x.2 (hok _ hx)
  unfold Holds15 at this
  simp only [Function.comp, specTok, this]
  split <;> rfl

/-- single-quoted and back-quoted tokens are untouched whatever they hold (no guard on the text) -/
theorem C15_token_hard_quoted (args : List Str) (sep text : Str) (h : hardQuoted sep = true) :
    expandArgsInTokens args [(sep, text)] = [(sep, text)] := by
  simp [expandArgsInTokens_eq_map, h]

theorem C15_token_expanded (args : List Str) (sep : Str) (w : List WSeg) (h : hardQuoted sep = false) (hok : wwordOk w = true) :
    expandArgsInTokens args [(sep, wrender w)] = [(sep, wspecArgs args w)] := by
  have := C15_tokens_full args [(sep, w)] (by simpa using hok)
  simpa [specTok, h] using this

/-! ### outside the guard: what the code does instead -/

/-- `$N}` : the `}` is swallowed although no `{` was opened (pattern `\$\{?([0-9]+|@)\}?`) -/
theorem C15_pos_swallows_brace (args : List Str) (d post : Str) (hd : digitsOk d = true) (hn : noNl post = true) :
    expandArgsTok args ('$' :: (d ++ '}' :: post)) = argValue args d ++ expandArgsTok args post := by
  have hnd : noNl ('$' :: (d ++ '}' :: post)) = true := by
    rw [noNl_cons, noNl_append_iff, noNl_cons, noNl_digits d hd, hn]; decide
  exact expandArgsTok_ref args _ d post hnd (argRefAt_pos_brace d post hd)

/-- `$@}` : likewise -/
theorem C15_all_swallows_brace (args : List Str) (post : Str) (hn : noNl post = true) :
    expandArgsTok args ('$' :: '@' :: '}' :: post) = argValue args ['@'] ++ expandArgsTok args post := by
  have hnd : noNl ('$' :: '@' :: '}' :: post) = true := by simp only [noNl_cons, hn]; decide
  exact expandArgsTok_ref args _ ['@'] post hnd (argRefAt_all_brace post)

/-- `C15_word_full` at a word that starts with `$` and the digits `d ++ d'`: however a reader splits the digits, the
reference is the one with the whole number (genuine ambiguity, as in any shell) -/
theorem C15_pos_digit_extends (args : List Str) (d d' : Str) (w : List WSeg) (h : wwordOk (.pos (d ++ d') :: w) = true) :
    expandArgsTok args ('$' :: d ++ (d' ++ wrender w)) = argValue args (d ++ d') ++ wspecArgs args w := by
  have := C15_word_full args (.pos (d ++ d') :: w) h
  simpa [Holds15, wrender, wspecArgs, WSeg.render, WSeg.value] using this

/-- a token that holds a newline is not expanded at all: the pattern's `.` does not match a newline (model = code) -/
theorem C15_newline_blocks_expansion (args : List Str) (t : Str) (h : '\n' ∈ t) : expandArgsTok args t = t := by
  apply expandArgsTok_nl
  cases hn : noNl t with
  | false => rfl
  | true =>
    simp only [noNl, List.all_eq_true, decide_eq_true_eq] at hn
    exact absurd rfl (hn _ h)

/-! ### the values are not scanned again: concrete witnesses; non-vacuity -/

/-- an argument that is literally `$2` is inserted as that text -/
example : expandArgsTok ["s".toList, "$2".toList, "B".toList] "x$1y${2}".toList = "x$2yB".toList := by
  lit_lists
  decide +kernel
/-- … also through `$@` -/
example : expandArgsTok ["s".toList, "$2".toList, "${1}".toList] "$@".toList = "$2 ${1}".toList := by
  lit_lists
  decide +kernel

example : wwordOk [.lit "a-".toList, .pos "1".toList, .bpos "2".toList, .lit "3/".toList, .all, .ball, .bpos "10".toList, .lit "}".toList,
    .pos "0".toList, .pos "1".toList, .lit "{x".toList] = true := by decide +kernel
example : wrender [.lit "a-".toList, .pos "1".toList, .bpos "2".toList, .lit "3/".toList, .all, .ball] = "a-$1${2}3/$@${@}".toList := by
  lit_lists
  decide +kernel
example : wordOk [.lit "a".toList, .pos "1".toList, .bpos "2".toList, .lit "3".toList, .all] = true := by decide +kernel
example : ∀ x ∈ [("\"".toList, [WSeg.pos "1".toList]), ("'".toList, [WSeg.pos "1".toList]), ([], [WSeg.lit "v=".toList, WSeg.ball])],
    wwordOk x.2 = true := by decide +kernel
-- `C15_pos_swallows_brace` on a concrete word; its hypotheses are satisfiable
example : expandArgsTok ["s".toList, "A".toList] "$1}".toList = "A".toList := by decide +kernel
example : digitsOk "12".toList = true ∧ noNl "x".toList = true := by decide +kernel

/-- observation (model of `parse_line` + `expand_args`): in a script a backslash does not protect a positional
reference — `\$1` and `"\$1"` are still replaced (the first becomes a token with separator `\`, which the pass does
not exempt; inside double quotes the backslash stays and the `$1` behind it is expanded) -/
theorem C15_escaped_dollar_still_expanded :
    expandArgsInTokens ["s".toList, "A".toList] (parseLine "echo \\$1 \"\\$1\"".toList)
      = [([], "echo".toList), (['\\'], "A".toList), (['"'], "\\A".toList)] := by
  lit_lists
  decide +kernel

end Cicada.C15
