import Cicada.Model.History
import Cicada.Lemmas.Lit
import Cicada.Lemmas.Str
/-!
# C18 — history stores every submitted line verbatim and injection-free

Every field of the INSERT that `add_raw` builds (command text, session id, directory)
is spliced as `'` + the text with its quotes doubled + `'`.  SQLite's literal lexer reads that back as exactly the text,
whatever it holds, and stops at the closing quote (`C18_literal_roundtrip`; what follows in the statement is `,` `)` or a
blank, never a quote), so the VALUES part parses to exactly the three values (`C18_insert_values`).
Then what `delete` and `add` do to the rows of the table.  Finding kept visible: the line is `trim`med before it is stored (KF-C18-trim).
-/
namespace Cicada.Hist

theorem lexBody_dbl (s rest : Str) (h : rest.head? ≠ some '\'') : lexBody (dbl s ++ '\'' :: rest) = some (s, rest) := by
  induction s with
  | nil =>
    cases rest with
    | nil => rfl
    | cons c cs =>
      have hc : c ≠ '\'' := by intro e; subst e; simp at h
      simp [dbl, lexBody, hc]
  | cons c cs ih =>
    by_cases hc : c = '\''
    · subst hc
      simp [dbl, lexBody, ih]
    · -- the equation also holds for `x = []`; the overlapping patterns of `lexBody` only yield it for a non-empty tail
      have hstep : ∀ x : Str, x ≠ [] → lexBody (c :: x) = (lexBody x).map (fun (s, r) => (c :: s, r)) := by
        intro x hx
        cases x with
        | nil => exact absurd rfl hx
        | cons d ds => simp [lexBody, hc]
      simp only [dbl, hc, ↓reduceIte, List.cons_append]
      rw [hstep _ (by simp), ih]
      rfl

/-- **injection-freedom of one spliced field** -/
theorem C18_literal_roundtrip (s rest : Str) (h : rest.head? ≠ some '\'') : lexLit (lit s ++ rest) = some (s, rest) := by
  simp [lit, lexLit, lexBody_dbl s rest h]

theorem parseValues_of (nums s a r1 b r2 c : Str) (h0 : startsWith s "VALUES(".toList = true)
    (h1 : lexLit (s.drop 7) = some (a, r1)) (h2 : startsWith r1 (", ".toList ++ nums ++ ", ".toList) = true)
    (h3 : lexLit (r1.drop (", ".toList ++ nums ++ ", ".toList).length) = some (b, r2))
    (h4 : startsWith r2 ", ".toList = true) (h5 : lexLit (r2.drop 2) = some (c, ");".toList)) :
    parseValues nums s = some (a, b, c) := by
  simp only [parseValues, h0, h1, h2, h3, h4, h5, Bool.not_true, Bool.false_eq_true, ↓reduceIte]

/-- the text is bracketed as `parseValues` consumes it -/
theorem parseValues_literals (a b c nums : Str) :
    parseValues nums ("VALUES(".toList ++ (lit a ++ ((", ".toList ++ nums ++ ", ".toList) ++ (lit b ++ (", ".toList ++
      (lit c ++ ");".toList)))))) = some (a, b, c) := by
  have hq : ∀ X : Str, (", ".toList ++ X).head? ≠ some '\'' := fun X => by simp
  apply parseValues_of (r1 := (", ".toList ++ nums ++ ", ".toList) ++ (lit b ++ (", ".toList ++ (lit c ++ ");".toList))))
    (r2 := ", ".toList ++ (lit c ++ ");".toList))
  · exact startsWith_append _ _
  · rw [List.drop_left' (by rfl), C18_literal_roundtrip]
    rw [List.append_assoc, List.append_assoc]
    exact hq _
  · exact startsWith_append _ _
  · rw [List.drop_left' (by rfl), C18_literal_roundtrip _ _ (hq _)]
  · exact startsWith_append _ _
  · rw [List.drop_left' (by rfl), C18_literal_roundtrip _ _ (by decide)]

/-- **the INSERT stores exactly the three values** -/
theorem C18_insert_values (line session dir nums : Str) :
    parseValues nums (insertValues line session dir nums) = some (trim line, session, "dir:".toList ++ dir ++ "|".toList) := by
  unfold insertValues
  simp only [List.append_assoc]
  have := parseValues_literals (trim line) session ("dir:".toList ++ dir ++ "|".toList) nums
  simp only [List.append_assoc] at this
  exact this

/-- `history delete` removes exactly the rows named -/
theorem C18_delete_exact (db : Db) (ids : List Nat) (r : Row) :
    r ∈ (delete db ids).rows ↔ r ∈ db.rows ∧ r.rowid ∉ ids := by
  simp [delete, List.mem_filter]

/-- an added line becomes the last row; earlier rows are unchanged -/
theorem C18_add_appends (db : Db) (line dir : Str) :
    (add db line dir).rows = db.rows ++ [{ rowid := db.next, inp := trim line, dir := dir }] := rfl

theorem rows_add (db : Db) (line dir : Str) : (add db line dir).rows.map (·.inp) = db.rows.map (·.inp) ++ [trim line] := by
  rw [C18_add_appends, List.map_append, List.map_singleton]

/-- an injection attempt is read back as text -/
example : lexLit (lit "x'); DELETE FROM cicada_history; --".toList ++ ", 0".toList) = some ("x'); DELETE FROM cicada_history; --".toList, ", 0".toList) := by
  lit_lists
  decide +kernel

/-- were the directory spliced unescaped: in a directory `d'q` the statement has not the shape of an INSERT -/
example : parseValues "0".toList ("VALUES(".toList ++ lit "a".toList ++ ", 0, ".toList ++ lit "s".toList ++ ", 'dir:d'q|');".toList) = none := by
  lit_lists
  decide +kernel

/-- KF-C18-trim: surrounding blanks are not stored -/
example : (add {} "  lead ".toList "/".toList).rows.map (·.inp) = ["lead".toList] := by
  lit_lists
  decide +kernel

end Cicada.Hist
