import Cicada.Thm.C14
import Cicada.Lemmas.LocustLayout
import Cicada.Lemmas.Lit
/-!
# C14, the parser half — the PEG round trip

`Thm/C14.lean` proves that the interpreter, run on ANY pair tree that represents an AST (`RBlock`), yields the structured
semantics of that AST.  Here: the pair tree that the grammar model (`Model/Locust.lean`, `parseLines`) builds for the
canonical text of an AST does represent it.

* `render semi b` (`Lemmas/LocustRT.lean`: `rS` / `rB` / `rA`, written with an explicit "rest of the text" argument; equal
  to the plain concatenation of lines `textB semi b` defined below, `render_eq_text`): one statement per line, every line
  ended by `\n`, no indentation; `break`, `continue`; with `semi = false` the heads are `if c` / `else if c` / `else` /
  `fi`, `for v in words` / `done`, `while c` / `done`; with `semi = true` they are spelled `if c; then`,
  `else if c; then`, `for v in words; do`, `while c; do` (the grammar's `DUMMY_THEN` / `DUMMY_DO`).
* `okAst args b` (decidable, input only): command lines are plain (not empty, no `\n` / `\r`, first and last character
  not white space), do not start like a keyword of `KW_LIST` (`if `, `for `, `else if `, `while `; not exactly `fi`,
  `done`, `else`), are not `break` / `continue` and are untouched by positional expansion (`expandArgs args l = l`, as
  `C14_interpreter_refines` needs); conditions and `for` word lists are plain and no suffix of them reads
  `;` blanks `then` / `do` blanks (which, with the newline, the grammar would take for the end of the head — `;` elsewhere
  is allowed); conditions of `if` / `while` are untouched by positional expansion; loop variables are identifiers; no
  body is empty (the grammar's `EXP_BODY` is `+`); an `if` has at least one arm.  Arbitrary nesting.
* `C14_parse_render`: for every such AST and both spellings, `parseLines (render semi b)` succeeds and the children of the
  `EXP` pair represent `b` (the round trip of `Lemmas/LocustLayout.lean` in the layout without indentation and blank lines).  The fuel: `C14_fuel_bound` (`cB b ≤ 2 * |render semi b|`, below `parseFuel`),
  `C14_parse_render_fuel` (every fuel `≥ cB b`).
* `C14_script_end_to_end`: `run_lines` on `render semi b` is no syntax error and yields `semBlock b`.
* `C14_parse_render_flat`: the exact tree for a flat list of command lines (no `okAst`: `break` / `continue` lines and lines
  with positional parameters included); `C14_parse_render_depth1`: `C14_parse_render` for one level of blocks.
Indentation, blank lines and a last line without newline: `Thm/C14layout.lean`.  Outside: trailing blanks, a mix of the two
spellings in one script, `\r\n` line ends; lines that need positional expansion.
-/
namespace Cicada.C14
open Cicada Cicada.Locust

variable {sm : Bool}

/-- the class of ASTs covered by the round trip (`okB`) -/
def okAst (args : List Str) (b : Block) : Bool := okB args b

/-- the parser fuel a block needs is at most twice the length of its text -/
theorem C14_fuel_bound (sm : Bool) (b : Block) : cB b ≤ 2 * (render sm b).length := by
  have := lB_len (lay := Layout.plain sm) 0 b false [] (by simp)
  rw [plain_cB, plain_lB] at this
  simpa [render] using this

/-- the top rule on the rendered text, with any fuel from `cB b` on: all of the text is consumed and the pairs represent `b` -/
theorem C14_parse_render_fuel (sm : Bool) (args : List Str) (b : Block) (hok : okAst args b = true) (f : Nat) (hf : cB b ≤ f) :
    ∃ ts, pTop f (render sm b) = (ts, []) ∧ RBlock args b ts := by
  obtain ⟨ts, h, hR⟩ := topL (plain_ok sm) args b hok false f (by rw [plain_cB]; exact hf)
  rw [plain_lB] at h
  exact ⟨ts, h, rBlockB_false (rBlockB_mono (Layout.noBlank rfl rfl).elim hR)⟩

/-- **PEG round trip**: the tree the grammar model builds for the canonical text of `b` represents `b` -/
theorem C14_parse_render (sm : Bool) (args : List Str) (b : Block) (hok : okAst args b = true) :
    ∃ ts, parseLines (render sm b) = some (.node "EXP" (render sm b) ts) ∧ RBlock args b ts := by
  obtain ⟨ts, h1, h2⟩ := C14_parse_render_fuel sm args b hok (parseFuel (render sm b))
    (by have := C14_fuel_bound sm b; simp only [parseFuel]; omega)
  refine ⟨ts, ?_, h2⟩
  simp [parseLines, h1, skip]

/-- **end to end**: running the rendered script is not a syntax error, and whatever `run_lines` returns is what the
structured semantics of the AST prescribes (`set -e` off) -/
theorem C14_script_end_to_end {σ} (sem : Sem σ) (sm : Bool) (args : List Str) (hE : ∀ s, sem.exitOnError s = false)
    (b : Block) (hok : okAst args b = true) (f : Nat) (st : σ) :
    runLines sem args f (render sm b) st ≠ .ok none ∧
    ∀ r, runLines sem args f (render sm b) st = .ok (some r) → ∃ g fl, semBlock sem g b false st = .ok (r.st, fl) := by
  obtain ⟨ts, hp, hR⟩ := C14_parse_render sm args b hok
  constructor
  · unfold runLines
    simp only [hp, Outcome.map]
    cases runExp sem args f (PT.node "EXP" (render sm b) ts).kids false st none <;> simp [Outcome.bind]
  · intro r hrun
    exact C14_script_refines sem args hE b (render sm b) (render sm b) ts hp hR f st r hrun

/-! ### the canonical text as the plain concatenation of its lines -/

mutual
def textS (sm : Bool) : Stmt → Str
  | .cmd l => l ++ ['\n']
  | .brk => "break\n".toList
  | .cont => "continue\n".toList
  | .ite arms els =>
    textA sm "if ".toList arms ++ ((if els.isNil then [] else "else\n".toList ++ textB sm els) ++ "fi\n".toList)
  | .for v init body => "for ".toList ++ (v ++ (" in ".toList ++ (init ++ (hEnd sm "do".toList ++ (textB sm body ++ "done\n".toList)))))
  | .whl t body => "while ".toList ++ (t ++ (hEnd sm "do".toList ++ (textB sm body ++ "done\n".toList)))
def textB (sm : Bool) : Block → Str
  | .nil => []
  | .cons s b => textS sm s ++ textB sm b
def textA (sm : Bool) (kw : Str) : Arms → Str
  | .nil => []
  | .cons t body rest => kw ++ (t ++ (hEnd sm "then".toList ++ (textB sm body ++ textA sm "else if ".toList rest)))
end

theorem textS_ite (arms : Arms) (els : Block) : textS sm (.ite arms els) =
    textA sm "if ".toList arms ++ ((if els.isNil then [] else "else\n".toList ++ textB sm els) ++ "fi\n".toList) := rfl
theorem textS_for (v init : Str) (body : Block) : textS sm (.for v init body) =
    "for ".toList ++ (v ++ (" in ".toList ++ (init ++ (hEnd sm "do".toList ++ (textB sm body ++ "done\n".toList))))) := rfl
theorem textS_whl (t : Str) (body : Block) : textS sm (.whl t body) =
    "while ".toList ++ (t ++ (hEnd sm "do".toList ++ (textB sm body ++ "done\n".toList))) := rfl
theorem textB_cons (s : Stmt) (b : Block) : textB sm (.cons s b) = textS sm s ++ textB sm b := rfl
theorem textA_cons (kw t : Str) (body : Block) (rest : Arms) : textA sm kw (.cons t body rest) =
    kw ++ (t ++ (hEnd sm "then".toList ++ (textB sm body ++ textA sm "else if ".toList rest))) := rfl

mutual
theorem rS_text : ∀ (s : Stmt) (k : Str), rS sm s k = textS sm s ++ k
  | .cmd l, k => by show l ++ '\n' :: k = (l ++ ['\n']) ++ k; simp
  | .brk, k => by show "break".toList ++ '\n' :: k = "break\n".toList ++ k; simp
  | .cont, k => by show "continue".toList ++ '\n' :: k = "continue\n".toList ++ k; simp
  | .ite arms els, k => by
    rw [rS_ite, textS_ite, rA_text]
    cases els with
    | nil => simp only [Block.isNil, ↓reduceIte, List.nil_append, List.append_assoc]
    | cons s b => simp only [Block.isNil, Bool.false_eq_true, ↓reduceIte, rB_text (.cons s b), List.append_assoc]
  | .for v init body, k => by
    rw [rS_for, textS_for, rB_text body]; simp only [List.append_assoc]
  | .whl t body, k => by
    rw [rS_whl, textS_whl, rB_text body]; simp only [List.append_assoc]
theorem rB_text : ∀ (b : Block) (k : Str), rB sm b k = textB sm b ++ k
  | .nil, k => rfl
  | .cons s b, k => by rw [rB_cons, textB_cons, rS_text s, rB_text b, List.append_assoc]
theorem rA_text : ∀ (kw : Str) (a : Arms) (k : Str), rA sm kw a k = textA sm kw a ++ k
  | _, .nil, _ => rfl
  | kw, .cons t body rest, k => by
    rw [rA_cons, textA_cons, rA_text _ rest, rB_text body]; simp only [List.append_assoc]
end

theorem render_eq_text (sm : Bool) (b : Block) : render sm b = textB sm b := by
  simp [render, rB_text]

theorem C14_parse_text (sm : Bool) (args : List Str) (b : Block) (hok : okAst args b = true) :
    ∃ ts, parseLines (textB sm b) = some (.node "EXP" (textB sm b) ts) ∧ RBlock args b ts := by
  rw [← render_eq_text]; exact C14_parse_render sm args b hok

/-! ### non-vacuity -/

/-- `cmd; for (if / else if (while, break) / else); cmd` with `continue`, `break`, `$x` and a `;` inside a line -/
def exAst : Block :=
  .cons (.cmd "echo a; echo b".toList)
  (.cons (.for "x".toList "1 2 3".toList
      (.cons (.ite (.cons "test $x = 2".toList (.cons .cont .nil)
                   (.cons "test $x = 3".toList
                      (.cons (.whl "false".toList (.cons (.cmd "fix it".toList) .nil)) (.cons .brk .nil)) .nil))
                   (.cons (.cmd "echo $x".toList) .nil))
      (.cons (.cmd "done1".toList) .nil)))
  (.cons (.cmd "z".toList) .nil))

set_option maxRecDepth 4000 in
/-- the hypotheses of `C14_parse_render` / `C14_script_end_to_end` hold for `exAst`, whose text is
`echo a; echo b / for x in 1 2 3 / if test $x = 2 / continue / else if test $x = 3 / while false / fix it / done / break /
else / echo $x / fi / done1 / done / z` -/
example : okAst [] exAst = true := by
  unfold exAst
  lit_lists
  decide +kernel

def exSmall : Block :=
  .cons (.whl "t".toList (.cons (.ite (.cons "a".toList (.cons .brk .nil) .nil) (.cons (.cmd "c".toList) .nil)) .nil)) .nil

example : okAst [] exSmall = true := by decide +kernel
set_option maxRecDepth 4000 in
example : render false exSmall = "while t\nif a\nbreak\nelse\nc\nfi\ndone\n".toList := by
  lit_lists
  decide +kernel
set_option maxRecDepth 4000 in
example : render true exSmall = "while t; do\nif a; then\nbreak\nelse\nc\nfi\ndone\n".toList := by
  lit_lists
  decide +kernel
example : cB exSmall = 13 ∧ parseFuel (render false exSmall) = 72 := by decide +kernel

/-- the `; then` / `; do` spelling of `exSmall`, parsed: the `TEST` pairs carry the bare conditions -/
example : parseLines (render true exSmall) = some (.node "EXP" (render true exSmall)
    [.node "EXP_WHILE" "while t; do\nif a; then\nbreak\nelse\nc\nfi\ndone\n".toList
      [.node "WHILE_HEAD" "while t; do\n".toList [.node "TEST" "t".toList []],
       .node "EXP_BODY" "if a; then\nbreak\nelse\nc\nfi\n".toList
        [.node "EXP_IF" "if a; then\nbreak\nelse\nc\nfi\n".toList
          [.node "IF_IF_BR" "if a; then\nbreak\n".toList
            [.node "IF_HEAD" "if a; then\n".toList [.node "TEST" "a".toList []],
             .node "EXP_BODY" "break\n".toList [.node "CMD" "break\n".toList []]],
           .node "IF_ELSE_BR" "else\nc\n".toList
            [.node "KW_ELSE" "else\n".toList [], .node "EXP_BODY" "c\n".toList [.node "CMD" "c\n".toList []]]]]]]) :=
  parse_eq_of_ptEq (by
    lit_lists
    decide +kernel)

/-- the guard is not trivially true: a command line that is a keyword, an empty body, a condition ending in `; then` -/
example : okAst [] (.cons (.cmd "fi".toList) .nil) = false ∧
    okAst [] (.cons (.whl "t".toList .nil) .nil) = false ∧
    okAst [] (.cons (.whl "t; then".toList (.cons .brk .nil)) .nil) = false ∧
    okAst [] (.cons (.whl "t; echo then".toList (.cons .brk .nil)) .nil) = true := by
  lit_lists
  decide +kernel

/-! ### flat scripts, with the exact tree -/

def flat : List Str → Block
  | [] => .nil
  | l :: ls => .cons (.cmd l) (flat ls)

theorem flat_top (ls : List Str) (h : ∀ l ∈ ls, plainB l = true ∧ notKwB l = true) :
    ∀ f, ls.length ≤ f → pTop f (rB sm (flat ls) []) = (ls.map (fun l => .node "CMD" (l ++ ['\n']) []), []) := by
  induction ls with
  | nil => intro f _; exact stop_nil.top f
  | cons l ls ih =>
    intro f hf
    obtain ⟨g, rfl⟩ : ∃ g, f = g + 1 := ⟨f - 1, by simp at hf; omega⟩
    have hl := h l (by simp)
    have hp := plain_of_plainB hl.1
    have ih' := ih (fun l' hl' => h l' (List.mem_cons_of_mem _ hl')) g (by simp at hf; omega)
    have hsk : skip (rB sm (flat ls) []) = rB sm (flat ls) [] := by
      cases ls with
      | nil => rfl
      | cons l' ls' =>
        exact (plain_of_plainB (h l' (by simp)).1).skipApp _
    have hlen : (rB sm (flat ls) []).length < (l ++ '\n' :: rB sm (flat ls) []).length := by simp; omega
    show pTop (g + 1) (l ++ '\n' :: rB sm (flat ls) []) = _
    have hi : pItemT g (l ++ '\n' :: rB sm (flat ls) []) = some (.node "CMD" (l ++ ['\n']) [], rB sm (flat ls) []) :=
      (item_line [] (fun _ h => nomatch h) hp hl.2 (.inr ⟨_, rfl⟩) g).1
    rw [pTop_succ, hi]
    simp only [hlen, ↓reduceIte, hsk, ih']
    cases ls with
    | nil => rfl
    | cons l' ls' => simp

theorem flat_cost (ls : List Str) : cB (flat ls) = ls.length := by
  induction ls with
  | nil => rfl
  | cons l ls ih => show cS (.cmd l) + cB (flat ls) + 1 = _; rw [ih]; simp [cS]

/-- a flat list of plain lines that do not start like a keyword (`break` / `continue` and lines with
positional parameters included) parses to exactly one `CMD` pair per line, each spanning the line and its newline -/
theorem C14_parse_render_flat (sm : Bool) (ls : List Str) (h : ∀ l ∈ ls, plainB l = true ∧ notKwB l = true) :
    parseLines (render sm (flat ls)) =
      some (.node "EXP" (render sm (flat ls)) (ls.map (fun l => .node "CMD" (l ++ ['\n']) []))) := by
  have hf : ls.length ≤ parseFuel (render sm (flat ls)) := by
    have := C14_fuel_bound sm (flat ls)
    rw [flat_cost] at this
    simp only [parseFuel]; omega
  have := flat_top (sm := sm) ls h _ hf
  simp only [render] at this ⊢
  simp [parseLines, this, skip]

example : parseLines "echo $1\nbreak\nfix x\n".toList =
    some (.node "EXP" "echo $1\nbreak\nfix x\n".toList
      [.node "CMD" "echo $1\n".toList [], .node "CMD" "break\n".toList [], .node "CMD" "fix x\n".toList []]) :=
  parse_eq_of_ptEq (by
    lit_lists
    decide +kernel)

/-! ### one level of blocks with flat bodies -/

def flatB : Block → Bool
  | .nil => true
  | .cons (.cmd _) b => flatB b
  | .cons .brk b => flatB b
  | .cons .cont b => flatB b
  | .cons _ _ => false

def flatA : Arms → Bool
  | .nil => true
  | .cons _ body rest => flatB body && flatA rest

def depth1 : Block → Bool
  | .nil => true
  | .cons (.ite arms els) b => flatA arms && flatB els && depth1 b
  | .cons (.for _ _ body) b => flatB body && depth1 b
  | .cons (.whl _ body) b => flatB body && depth1 b
  | .cons _ b => depth1 b

theorem C14_parse_render_depth1 (sm : Bool) (args : List Str) (b : Block) (hok : okAst args b = true) (_h1 : depth1 b = true) :
    ∃ ts, parseLines (render sm b) = some (.node "EXP" (render sm b) ts) ∧ RBlock args b ts :=
  C14_parse_render sm args b hok

end Cicada.C14
