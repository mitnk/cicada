import Cicada.Drive.C07
/-!
# C07: a pipeline launched for a command substitution owns the terminal while it runs

`DriveC07.probeOwns c s` is the model's answer to the probe action `P` of the C07 sessions: the state reached after every
launch step of a one-stage foreground pipeline (`launch`, `fork pid`, the parent's `setpgid` when `c.parentSetpgid`,
`give`, `insert`, the child's own `csetpgid pid`) and before the stage's exit.  Here the answer `(true, true)` -- the
stage's group is the terminal's foreground group, and the stage leads its group -- is a theorem for every interactive
configuration (both values of `c.parentSetpgid`) and every prompt state in which the next pid is fresh.
-/
namespace Cicada.C07probe
open Cicada.Jobs Cicada.Term Cicada.DriveC07

def probeActs (c : Cfg) (n0 : Nat) : List Act :=
  [Act.launch false [stageCmd (n0 + 1) (.exit 0)], .fork (pidBase + n0 + 1)] ++
  (if c.parentSetpgid then [Act.psetpgid] else []) ++
  [.give, .insert, .csetpgid (pidBase + n0 + 1)]

/-- in this form `simp` decides the comparison of two actions built by different constructors, whatever their pids -/
theorem beq_decide (a b : Act) : (a == b) = decide (a = b) := rfl

theorem takeWhile_probe (c : Cfg) (n0 : Nat) :
    (launchActs c stageCmd n0 false [.exit 0]).takeWhile
      (fun a => !(a == Act.exit (pidBase + n0 + 1) 0 || a == Act.launched)) = probeActs c n0 := by
  cases h : c.parentSetpgid <;>
    simp [probeActs, launchActs, stageActs, h, List.range_succ, List.takeWhile, beq_decide]

theorem updProc_append_fresh {procs : List Proc} {pid : Pid} (hfresh : ∀ q ∈ procs, q.pid ≠ pid) (p : Proc) (f : Proc → Proc)
    (hp : p.pid = pid) : updProc (procs ++ [p]) pid f = procs ++ [f p] := by
  unfold updProc
  rw [List.map_append]
  congr 1
  · conv => rhs; rw [← List.map_id procs]
    apply List.map_congr_left
    intro q hq
    simp [hfresh q hq]
  · simp [hp]

theorem findProc_append_fresh {procs : List Proc} {pid : Pid} (hfresh : ∀ q ∈ procs, q.pid ≠ pid) (p : Proc) (hp : p.pid = pid) :
    findProc (procs ++ [p]) pid = some p := by
  unfold findProc
  rw [List.find?_append]
  have : procs.find? (fun q => decide (q.pid = pid)) = none := by
    rw [List.find?_eq_none]
    intro q hq
    simp [hfresh q hq]
  simp [this, hp]

def stageProc (c : Cfg) (pid : Pid) : Proc :=
  { pid := pid, first := pid, pgid := pid, psetDone := c.parentSetpgid, csetDone := true }

/-- the state the probing stage observes: the run of the probe's steps is enabled, ends with the stage's pid as the
terminal's foreground group, and has appended exactly one process record, in its own group -/
theorem C07_probe_state (c : Cfg) (s : State)
    (hi : c.interactive = true)
    (hm : s.mode = .prompt)
    (hfresh : ∀ p ∈ s.procs, p.pid ≠ pidBase + s.procs.length + 1)
    (hsh : s.shell ≠ pidBase + s.procs.length + 1) :
    ∃ s', run c s ((launchActs c stageCmd s.procs.length false [.exit 0]).takeWhile
        (fun a => !(a == Act.exit (pidBase + s.procs.length + 1) 0 || a == Act.launched))) = some s' ∧
      s'.tfg = pidBase + s.procs.length + 1 ∧
      s'.procs = s.procs ++ [stageProc c (pidBase + s.procs.length + 1)] := by
  rw [takeWhile_probe]
  -- one name for the new pid, so that `simp` meets the same term in the goal and in the hypotheses
  generalize hpid : pidBase + s.procs.length + 1 = pid at *
  have hpid0 : pid ≠ 0 := by omega
  have hany : (s.procs.any fun q => decide (q.pid = pid)) = false :=
    List.any_eq_false.mpr fun q hq => by simp [hfresh q hq]
  have hu := updProc_append_fresh hfresh
  have hfd := findProc_append_fresh hfresh
  -- `simp` runs the steps one after the other.  `give` succeeds because the child, not yet reaped, has the pid it is given;
  -- the child ends up in its own group by the parent's `setpgid` or, without it, by its own
  cases hp : c.parentSetpgid <;>
    simp [probeActs, hp, hpid, run, Term.step, hm, stepFork, stepPset, stepGive, stepInsert, hi, hpid0, Ne.symm hsh, hany, tcsetOk,
      hfd, hu, setpgidOk, stageProc]

/-- While the one-stage foreground pipeline of a command substitution runs (every launch step taken, the stage's exit
not yet), its group is the terminal's foreground group and the stage leads it: the model's answer to the probe `P` is
`(true, true)`, with and without the parent's `setpgid`. -/
theorem C07_substitution_owns_while_running (c : Cfg) (s : State)
    (hi : c.interactive = true)
    (hm : s.mode = .prompt)
    (hfresh : ∀ p ∈ s.procs, p.pid ≠ pidBase + s.procs.length + 1)
    (hsh : s.shell ≠ pidBase + s.procs.length + 1) :
    probeOwns c s = (true, true) := by
  obtain ⟨s', hrun, htfg, hprocs⟩ := C07_probe_state c s hi hm hfresh hsh
  unfold probeOwns
  simp only [hrun, htfg, hprocs]
  simp [stageProc]

/-- the same under the guard the sessions maintain (children are numbered in creation order, so every pid so far is at
most `pidBase + s.procs.length`; the shell's pid is not one of the children's numbers) -/
theorem C07_substitution_owns_numbered (c : Cfg) (s : State)
    (hi : c.interactive = true)
    (hm : s.mode = .prompt)
    (hnum : ∀ p ∈ s.procs, p.pid ≤ pidBase + s.procs.length)
    (hsh : s.shell ≠ pidBase + s.procs.length + 1) :
    probeOwns c s = (true, true) :=
  C07_substitution_owns_while_running c s hi hm (fun p hp => Nat.ne_of_lt (Nat.lt_succ_of_le (hnum p hp))) hsh

/-- the initial state of every session satisfies the hypotheses, for both configurations -/
example (c : Cfg) (hi : c.interactive = true) : probeOwns c (init shellPid) = (true, true) :=
  C07_substitution_owns_while_running c (init shellPid) hi rfl (by simp [init]) (by decide)

example : probeOwns {} (init shellPid) = (true, true) := by decide +kernel
example : probeOwns { parentSetpgid := false } (init shellPid) = (true, true) := by decide +kernel

/-- a prompt state with an earlier child (still running, in its own group, owning nothing) satisfies them too -/
example : probeOwns { parentSetpgid := false }
    { init shellPid with procs := [{ pid := pidBase + 1, first := pidBase + 1, pgid := pidBase + 1 }] } = (true, true) :=
  C07_substitution_owns_while_running _ _ rfl rfl (by decide) (by decide)

/-- the guard `interactive` is needed: without a terminal `give` does nothing and the shell keeps the terminal -/
example : probeOwns { interactive := false } (init shellPid) = (false, true) := by decide +kernel

/-- the guard on the mode is needed: in the middle of a line `launch` is not enabled -/
example : probeOwns {} { init shellPid with mode := .eol } = (false, false) := by decide +kernel

end Cicada.C07probe

section
open Cicada.C07probe
#print axioms C07_substitution_owns_while_running
#print axioms C07_probe_state
#print axioms C07_substitution_owns_numbered
end
