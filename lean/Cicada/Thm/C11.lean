import Cicada.Model.Subst
import Cicada.Lemmas.Lit
/-!
# C11 — command substitution splices the command's output in literally

The `$(…)` search and splice and the backquote matcher on one word: for **every** output text — `$1`, `${x}`, `$name`, `$$`,
backslashes, braces, regex-special characters, blanks — the word becomes `pre ++ output ++ post`, nothing in the output is
interpreted by the splice.  Known findings: the output is `trim`med on both sides (KF-C11-trim-both-ends); an output that itself
spells `$(cmd)` is executed again (KF-C11-output-rescanned); two substitutions in one word are read greedily as one (no
known-finding class).
-/
namespace Cicada.C11
open Cicada

theorem findDollarGroup_skip (pre rest acc : Str) (h : ∀ c ∈ pre, c ≠ '$') :
    findDollarGroup acc (pre ++ rest) = findDollarGroup (acc ++ pre) rest := by
  induction pre generalizing acc with
  | nil => simp
  | cons c cs ih =>
    have hc := h c (by simp)
    simp only [List.cons_append, findDollarGroup, hc, ↓reduceIte]
    rw [ih _ (fun x hx => h x (by simp [hx]))]
    simp [List.append_assoc]

theorem takeWhile_noNl_self (s : Str) (h : noNl s = true) : s.takeWhile (fun x => !decide (x = '\n')) = s := by
  have := List.takeWhile_append_of_pos (p := fun x => !decide (x = '\n')) (l₁ := s) (l₂ := [])
    (by simpa [noNl] using h)
  simpa using this

theorem getLast?_filter_range (p : Nat → Bool) (a : Nat) (hp : p a = true) :
    ∀ b, (∀ j, a < j → j < a + 1 + b → p j = false) → ((List.range (a + 1 + b)).filter p).getLast? = some a := by
  intro b
  induction b with
  | zero => intro _; simp [List.range_succ, List.filter_append, hp]
  | succ b ih =>
    intro hq
    rw [← Nat.add_assoc, List.range_succ, List.filter_append]
    simpa [List.filter_cons, hq (a + 1 + b) (by omega) (by omega)] using ih fun j h1 h2 => hq j h1 (by omega)

theorem lastParen_cmd (cmd post : Str) (hc : cmd ≠ []) (hp : ∀ c ∈ post, c ≠ ')') :
    lastParen (cmd ++ ')' :: post) = some cmd.length := by
  have hlen : (cmd ++ ')' :: post).length = cmd.length + 1 + post.length := by simp; omega
  have h := getLast?_filter_range (fun i => (cmd ++ ')' :: post).getD i ' ' = ')') cmd.length (by simp) post.length
    (by
      intro j h1 h2
      obtain ⟨k, rfl⟩ : ∃ k, j = cmd.length + (k + 1) := ⟨j - cmd.length - 1, by omega⟩
      have hk : k < post.length := by omega
      simpa [List.getD_eq_getElem?_getD, List.getElem?_append_right, hk] using hp _ (List.getElem_mem hk))
  rw [lastParen, hlen, h]
  have : 1 ≤ cmd.length := List.length_pos_iff.mpr hc
  simp [this]
/-- the search `\$\((.+)\)` is greedy; `post` free of `)` is what makes the greedy match the intended one
(`C11_finding_greedy` is the case without it) -/
theorem C11_find (pre cmd post : Str) (hpre : ∀ c ∈ pre, c ≠ '$') (hc : cmd ≠ []) (hcn : noNl cmd = true)
    (hpn : noNl post = true) (hp : ∀ c ∈ post, c ≠ ')') :
    findDollarGroup [] (pre ++ '$' :: '(' :: (cmd ++ ')' :: post)) = some (pre, cmd, post) := by
  rw [findDollarGroup_skip pre _ [] hpre]
  simp only [List.nil_append, findDollarGroup, ↓reduceIte]
  have hseg : (cmd ++ ')' :: post).takeWhile (· ≠ '\n') = cmd ++ ')' :: post := by
    have hn : noNl (cmd ++ ')' :: post) = true := by
      simp only [noNl, List.all_append, List.all_cons, Bool.and_eq_true, decide_eq_true_eq] at hcn hpn ⊢
      exact ⟨hcn, by decide, hpn⟩
    have := takeWhile_noNl_self (cmd ++ ')' :: post) hn
    simpa using this
  simp only [hseg, lastParen_cmd cmd post hc hp]
  simp

/-- **literal splice**: whatever the command printed is inserted as it is -/
theorem C11_splice_literal (pre cmd post out : Str) (hpre : ∀ c ∈ pre, c ≠ '$') (hc : cmd ≠ []) (hcn : noNl cmd = true)
    (hpn : noNl post = true) (hp : ∀ c ∈ post, c ≠ ')') :
    spliceDollar (pre ++ '$' :: '(' :: (cmd ++ ')' :: post)) out = pre ++ out ++ post := by
  simp [spliceDollar, C11_find pre cmd post hpre hc hcn hpn hp]

theorem span_bq (s r : Str) (h : ∀ c ∈ s, c ≠ '`') :
    (s ++ '`' :: r).takeWhile (fun x => !decide (x = '`')) = s ∧
    (s ++ '`' :: r).dropWhile (fun x => !decide (x = '`')) = '`' :: r := by
  have hp : ∀ a ∈ s, (!decide (a = '`')) = true := fun a ha => by simpa using h a ha
  rw [List.takeWhile_append_of_pos hp, List.dropWhile_append_of_pos hp]
  simp

theorem C11_backquote_match (pre cmd post : Str) (hpre : ∀ c ∈ pre, c ≠ '`') (hc : cmd ≠ []) (hcb : ∀ c ∈ cmd, c ≠ '`')
    (hpn : noNl post = true) :
    matchBackquote (pre ++ '`' :: (cmd ++ '`' :: post)) = some (pre, cmd, post) := by
  obtain ⟨a1, a2⟩ := span_bq pre (cmd ++ '`' :: post) hpre
  obtain ⟨b1, b2⟩ := span_bq cmd post hcb
  simp only [matchBackquote, ne_eq, decide_not]
  rw [a1, a2]
  simp only
  rw [b1, b2]
  simp [hc, hpn]

/-- a rejected inner command is replaced by nothing: the loop continues with the spliced line -/
theorem C11_rejected_is_empty (se : SubstEnv) (f : Nat) (line pre cmd post : Str)
    (hsd : shouldDoDollar line = true) (hfind : findDollarGroup [] line = some (pre, cmd, post))
    (hrej : runInner se f cmd = .ok none) :
    substDollarLoop se (f + 1) line = substDollarLoop se f (spliceDollar line []) := by
  simp [substDollarLoop, hsd, hfind, hrej]

example : spliceDollar "a$(printf x)b".toList "p$1q${r}s$$t\\u".toList = "ap$1q${r}s$$t\\ub".toList := by
  lit_lists
  decide +kernel
/-- `trim`, which the pass applies to an output, removes blanks and newlines at both ends (KF-C11-trim-both-ends) -/
example : trim "  a  \n".toList = "a".toList := by decide +kernel

end Cicada.C11
