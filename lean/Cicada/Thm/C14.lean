import Cicada.Spec.C14
import Cicada.Lemmas.LocustRT
import Cicada.Lemmas.InterpBlank
import Cicada.Lemmas.Lit
/-!
# C14 — scripts execute exactly the command sequence their block structure prescribes

Model: `Model/Locust.lean` (the pest grammar read as a PEG, character level, with pest's implicit
whitespace) and `Model/ScriptRun.lean` (run_exp / run_exp_if / run_exp_test_br / run_exp_for /
run_exp_while over the pair tree); reference semantics: `Spec/C14.lean` (`semBlock`, the textbook reading).

Proved here:
* `C14_stray_*` : a block terminator with nothing to close (a first line `fi`, `done` or `else`, whatever follows) makes the
  whole script a syntax error — nothing is silently skipped.  `C14_snapshot_skipped`: what a top rule without the
  end-of-input anchor yields on such a text (no pairs, the rest unread).  All four are read off `Stop` (`Lemmas/LocustRT.lean`): no statement of any kind starts at such a word, so the top rule consumes nothing.
* `C14_first_true_arm` : in the reference semantics exactly the first arm whose condition succeeds runs, and
  no later condition is evaluated.
* `C14_break_innermost` : `break` in the body of a `for` loop ends that loop and no more: the statement after the loop runs.
* `C14_interpreter_refines` : **the interpreter refines the structured semantics.**  For EVERY AST `b` (any nesting of
  `if` / `else if` / `else`, `for`, `while`, `break`, `continue`), every pair tree that represents it (`RBlock`: rule
  names and the trimmed texts of CMD / TEST / FOR_VAR pairs, nothing else), every `run_command_line` behaviour, every
  state and every fuel: whatever `run_exp` returns is what `semBlock b` prescribes — same final state, same pending
  `break` / `continue`.  Hypotheses: `set -e` is off (`semBlock` has no clause for it), and the lines are untouched by
  positional expansion.  Proof: `Lemmas/InterpBlank.lean`, for pair trees in which blank pairs may be interleaved.
The PEG round trip — the pair tree the grammar model builds for `render b` represents `b` — is `Thm/C14peg.lean`; that the
grammar model agrees with pest and with the implementation is not a theorem (checked by the `ptree` and `srun` streams).
-/
namespace Cicada.C14
open Cicada Cicada.Locust

/-- a stray `fi` at the top: syntax error, whatever follows -/
theorem C14_stray_fi (rest : Str) : parseLines ("fi\n".toList ++ rest) = none :=
  (stop_fi rest).parse_none (by simp)

theorem C14_stray_done (rest : Str) : parseLines ("done\n".toList ++ rest) = none :=
  (stop_done rest).parse_none (by simp)

theorem C14_stray_else (rest : Str) : parseLines ("else\n".toList ++ rest) = none :=
  (stop_else rest).parse_none (by simp)

theorem C14_snapshot_skipped (rest : Str) : (pTop (parseFuel ("fi\n".toList ++ rest)) ("fi\n".toList ++ rest)).1 = [] := by
  rw [(stop_fi rest).top]

/-- exactly the first true arm runs; conditions after it are not evaluated -/
theorem C14_first_true_arm {σ} (sem : Sem σ) (f : Nat) (t : Str) (body : Block) (rest : Arms) (els : Block) (inLoop : Bool) (st : σ)
    (h : (sem.runLine st t).2 = some 0) :
    semArms sem (f + 1) (.cons t body rest) els inLoop st = semBlock sem f body inLoop (sem.runLine st t).1 := by
  simp [semArms, h]

/-- a failing condition skips its arm and goes on with the next one -/
theorem C14_false_arm_skipped {σ} (sem : Sem σ) (f : Nat) (t : Str) (body : Block) (rest : Arms) (els : Block) (inLoop : Bool) (st : σ)
    (h : (sem.runLine st t).2 ≠ some 0) :
    semArms sem (f + 1) (.cons t body rest) els inLoop st = semArms sem f rest els inLoop (sem.runLine st t).1 := by
  simp [semArms, h]

theorem C14_break_innermost {σ} (sem : Sem σ) (f : Nat) (v : Str) (w : Str) (ws : List Str) (after : Block) (st : σ) (inLoop : Bool)
    (hw : sem.words st [] = w :: ws) :
    semBlock sem (f + 4) (.cons (.for v [] (.cons .brk .nil)) after) inLoop st = semBlock sem (f + 3) after inLoop (sem.setVar st v w) := by
  simp [semBlock, semFor, hw, Outcome.bind]

/-- **the interpreter refines the structured semantics** -/
theorem C14_interpreter_refines {σ} (sem : Sem σ) (args : List Str) (hE : ∀ s, sem.exitOnError s = false)
    (b : Block) (ts : List PT) (hrep : RBlock args b ts) (f : Nat) (inLoop : Bool) (st : σ) (last : Option Int) (r : RunRes σ)
    (hrun : runExp sem args f ts inLoop st last = .ok r) :
    ∃ g fl, semBlock sem g b inLoop st = .ok (r.st, fl) ∧ FlagRel r fl :=
  C14_interpreter_refines_blank False sem args hE b ts (rBlock_toB hrep) f inLoop st last r hrun

/-- at the top level (`run_lines`: not inside a loop) nothing is pending afterwards: the script's final state is the
semantics' final state -/
theorem C14_script_refines {σ} (sem : Sem σ) (args : List Str) (hE : ∀ s, sem.exitOnError s = false)
    (b : Block) (text : Str) (root : Str) (ts : List PT) (hparse : parseLines text = some (.node "EXP" root ts))
    (hrep : RBlock args b ts) (f : Nat) (st : σ) (r : RunRes σ)
    (hrun : runLines sem args f text st = .ok (some r)) :
    ∃ g fl, semBlock sem g b false st = .ok (r.st, fl) :=
  C14_script_refines_blank False sem args hE b text root ts hparse (rBlock_toB hrep) f st r hrun

/-- the children of the top pair for the script of the example below -/
def exTree : List PT :=
  [.node "EXP_FOR" "for x in a b; do\nif t\nbreak\nelse\nc $x\nfi\ndone\n".toList
    [.node "FOR_HEAD" "for x in a b; do\n".toList [.node "FOR_INIT" "x in a b; do\n".toList [.node "FOR_VAR" "x".toList [], .node "TEST" "a b".toList []]],
     .node "EXP_BODY" "if t\nbreak\nelse\nc $x\nfi\n".toList
      [.node "EXP_IF" "if t\nbreak\nelse\nc $x\nfi\n".toList
        [.node "IF_IF_BR" "if t\nbreak\n".toList [.node "IF_HEAD" "if t\n".toList [.node "TEST" "t".toList []],
                                                 .node "EXP_BODY" "break\n".toList [.node "CMD" "break\n".toList []]],
         .node "IF_ELSE_BR" "else\nc $x\n".toList [.node "KW_ELSE" "else\n".toList [],
                                                  .node "EXP_BODY" "c $x\n".toList [.node "CMD" "c $x\n".toList []]]]]],
   .node "CMD" "z\n".toList []]

/-- non-vacuity: `exTree` (what `parseLines` returns for `for x in a b; do / if t / break / else / c $x / fi / done / z`;
pair trees of this kind are what the `ptree` stream compares with pest's) represents the
corresponding AST, with no positional parameters in play -/
example : RBlock [] (.cons (.for "x".toList "a b".toList
        (.cons (.ite (.cons "t".toList (.cons .brk .nil) .nil) (.cons (.cmd "c $x".toList) .nil)) .nil))
      (.cons (.cmd "z".toList) .nil)) exTree := by
  unfold exTree
  lit_lists
  refine .cons (.for (by decide +kernel) (by decide +kernel) (by decide +kernel) (.cons (.ite (by decide +kernel) (.arm (Or.inl rfl) (by decide +kernel) (by decide +kernel)
    (.cons (.brk (by decide +kernel)) .nil) (.els (.cons (.cmd (by decide +kernel) ⟨by decide +kernel, by decide +kernel, by decide +kernel, by decide +kernel⟩) .nil)))) .nil))
    (.cons (.cmd (by decide +kernel) ⟨by decide +kernel, by decide +kernel, by decide +kernel, by decide +kernel⟩) .nil)

end Cicada.C14
