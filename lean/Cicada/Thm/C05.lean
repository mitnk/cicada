import Cicada.Model.Core
/-!
# C05 — no input line crashes the shell (planning and dispatch)

In the model every Rust panic site that is reachable in the modelled code is an explicit `Outcome.panic`, and every
rewrite-until-fixpoint loop is fuelled and yields `Outcome.diverge` on exhaustion.  Crash freedom is therefore a
theorem — "no input yields `panic`" — not an assumption: for every line, environment and fuel, planning never panics,
nor does deciding how to run a plan (a planned command has a first token), nor the calculator; every builtin name is
dispatched.  The two halves are not composed into one statement about a line, and nothing is proved about `diverge`:
a command whose output again contains `$(…)` is substituted again (finding KF-C11-output-rescanned).
-/
namespace Cicada.C05
open Cicada

def NoPanic {α} (o : Outcome α) : Prop := o.isPanic = false

@[elab_as_elim]
theorem noPanic_cases {α} {P : Outcome α → Prop} (o : Outcome α) (h : NoPanic o) (ok : ∀ a, P (.ok a))
    (err : ∀ k, P (.err k)) (diverge : ∀ s, P (.diverge s)) : P o := by
  cases o with
  | ok a => exact ok a
  | err k => exact err k
  | panic s => cases h
  | diverge s => exact diverge s

theorem noPanic_bind {α β} (o : Outcome α) (f : α → Outcome β) (h1 : NoPanic o) (h2 : ∀ a, NoPanic (f a)) :
    NoPanic (o.bind f) :=
  noPanic_cases o h1 h2 (fun _ => rfl) (fun _ => rfl)

theorem noPanic_map {α β} (o : Outcome α) (f : α → β) (h1 : NoPanic o) : NoPanic (o.map f) :=
  noPanic_bind o _ h1 (fun _ => rfl)

theorem noPanic_ite {α} (c : Prop) [Decidable c] (a b : Outcome α) (ha : NoPanic a) (hb : NoPanic b) :
    NoPanic (if c then a else b) := by split <;> assumption

/-! ### every builtin name is dispatched (over the constants regenerated from the source) -/

theorem C05_dispatch : ∀ b ∈ Generated.builtins, b ∈ Generated.dispatch := by decide +kernel

/-! ### a planned command always has a first token -/

theorem fromTokens_nonempty (ts : List Tok) (c : Command) (h : fromTokens ts = .ok c) : c.tokens ≠ [] := by
  revert h
  fun_cases fromTokens ts
  case case3 =>
    rename_i hne
    rintro ⟨⟩
    exact hne
  all_goals nofun

theorem fromTokensAll_nonempty (l : List (List Tok)) (cs : List Command) (h : fromTokensAll l = .ok cs) :
    ∀ c ∈ cs, c.tokens ≠ [] := by
  fun_induction fromTokensAll l generalizing cs with
  | case1 =>
    cases h
    nofun
  | case2 => cases h
  | case3 => cases h
  | case4 ts rest c hc cs' hcs ih =>
    cases h
    intro c' hc'
    rcases List.mem_cons.mp hc' with rfl | hc'
    · exact fromTokens_nonempty ts _ hc
    · exact ih cs' hcs c' hc'

/-- every command of every plan has a first token: `tokens[0]` cannot fail at dispatch -/
theorem C05_no_empty_command (ts : List Tok) (p : Plan) (h : planOfTokens ts = .ok p) :
    ∀ c ∈ p.commands, c.tokens ≠ [] := by
  revert h
  fun_cases planOfTokens ts
  · nofun
  · rename_i cs hcs
    rintro ⟨⟩
    exact fromTokensAll_nonempty _ cs hcs

/-! ### the calculator never panics -/

theorem applyOp_noPanic (o : Calc.Op) (l r : Int) : NoPanic (Calc.applyOp o l r) := by
  cases o with
  | div => exact noPanic_ite _ _ _ rfl rfl
  | _ => rfl

theorem evalTree_noPanic (t : Calc.E Int) : NoPanic (Calc.evalTree t) := by
  induction t with
  | atom v => rfl
  | bin o l r ihl ihr =>
    simp only [Calc.evalTree]
    exact noPanic_bind _ _ ihl (fun a => noPanic_bind _ _ ihr (fun b => applyOp_noPanic o a b))

mutual
theorem evalTerm_noPanic : ∀ t : Calc.Term, NoPanic (Calc.evalTerm t)
  | .num t => by
    simp only [Calc.evalTerm]
    split
    · rfl
    · exact noPanic_ite _ _ _ rfl rfl
  | .paren f => by simp only [Calc.evalTerm]; exact evalFlat_noPanic f
theorem evalFlat_noPanic : ∀ f : Calc.Flat, NoPanic (Calc.evalFlat f)
  | .mk first rest => by
    simp only [Calc.evalFlat]
    refine noPanic_bind _ _ (evalTerm_noPanic first) (fun v0 => noPanic_bind _ _ (evalTail_noPanic rest) (fun vs => ?_))
    split
    · rfl
    · exact evalTree_noPanic _
theorem evalTail_noPanic : ∀ t : Calc.Tail, NoPanic (Calc.evalTail t)
  | .nil => rfl
  | .cons o t rest => by
    simp only [Calc.evalTail]
    exact noPanic_bind _ _ (evalTerm_noPanic t) (fun v => noPanic_bind _ _ (evalTail_noPanic rest)
      (fun vs => rfl))
end

/-- `run_calculator` never panics, whatever the line -/
theorem C05_calc_no_panic (line : Str) : NoPanic (Calc.runCalculator line) := by
  fun_cases Calc.runCalculator line with
  | case3 f => exact noPanic_map _ _ (evalFlat_noPanic f)
  | _ => rfl

/-- deciding how to run a plan never panics: the calculator does not, and `tokens[0]` is there -/
theorem C05_head_no_panic (e : Env) (line : Str) (ts : List Tok) (p : Plan) (capture : Bool)
    (h : planOfTokens ts = .ok p) : NoPanic (runPipelineHead e line p capture) := by
  fun_cases runPipelineHead e line p capture
  case case2 => exact noPanic_map _ _ (C05_calc_no_panic line)
  case case4 =>
    rename_i c _ hcmds htok
    exact absurd htok (C05_no_empty_command ts p h c (by rw [hcmds]; simp))
  all_goals rfl

/-! ### planning a line never panics (every line, every environment, every fuel) -/

theorem expandBrace_noPanic (ts : List Tok) : NoPanic (expandBrace ts) := by
  induction ts with
  | nil => rfl
  | cons t rest ih =>
    obtain ⟨sep, text⟩ := t
    simp only [expandBrace]
    refine noPanic_bind _ _ ih (fun r => ?_)
    split
    · rfl
    · split <;> rfl

/-- the seven mutually recursive functions of `Model/Subst.lean`, all at once -/
def AllNoPanic (se : SubstEnv) (f : Nat) : Prop :=
  (∀ cmd, NoPanic (runInner se f cmd)) ∧
  (∀ line, NoPanic (substDollarLoop se f line)) ∧
  (∀ item tok, NoPanic (substDotLoop se f item tok)) ∧
  (∀ idx ts, NoPanic (substDotGo se f idx ts)) ∧
  (∀ idx ts, NoPanic (substDollarGo se f idx ts)) ∧
  (∀ ts, NoPanic (doExpansion se f ts)) ∧
  (∀ line, NoPanic (planOf se f line))

theorem allNoPanic (se : SubstEnv) : ∀ f, AllNoPanic se f := by
  intro f
  -- one bullet per function, in the order of `AllNoPanic`
  induction f with
  | zero =>
    refine ⟨?_, ?_, ?_, ?_, ?_, ?_, ?_⟩ <;> intros <;> rfl
  | succ f ih =>
    obtain ⟨h1, h2, h3, h4, h5, h6, h7⟩ := ih
    refine ⟨fun cmd => ?_, fun line => ?_, fun item tok => ?_, fun idx ts => ?_, fun idx ts => ?_, fun ts => ?_, fun line => ?_⟩
    · simp only [runInner]
      refine noPanic_cases (planOf se f cmd) (h7 cmd) (fun r => ?_) (fun _ => rfl) (fun _ => rfl)
      cases r <;> rfl
    · simp only [substDollarLoop]
      split
      · rfl
      · split
        · rfl
        · exact noPanic_cases (runInner se f _) (h1 _) (fun r => h2 _) (fun _ => rfl) (fun _ => rfl)
    · simp only [substDotLoop]
      split
      · rfl
      · refine noPanic_cases (runInner se f _) (h1 _) (fun r => ?_) (fun _ => rfl) (fun _ => rfl)
        simp only
        split
        · rfl
        · exact h3 _ _
    · cases ts with
      | nil => rfl
      | cons t rest =>
        simp only [substDotGo]
        split
        · exact noPanic_cases (runInner se f _) (h1 _) (fun r => noPanic_map _ _ (h4 _ _)) (fun _ => rfl) (fun _ => rfl)
        · split
          · split
            · exact h4 _ _
            · exact noPanic_bind _ _ (h3 _ _) (fun _ => noPanic_map _ _ (h4 _ _))
          · exact h4 _ _
    · cases ts with
      | nil => rfl
      | cons t rest =>
        simp only [substDollarGo]
        split
        · exact h5 _ _
        · refine noPanic_bind _ _ (h2 _) (fun r => ?_)
          split
          · rfl
          · exact noPanic_map _ _ (h5 _ _)
    · simp only [doExpansion]
      split
      · rfl
      · split
        · rfl
        · exact noPanic_bind _ _ (expandBrace_noPanic _) (fun t3 => noPanic_bind _ _ (h4 _ _)
            (fun u1 => noPanic_bind _ _ (h5 _ _) (fun u2 => rfl)))
    · exact noPanic_map _ _ (h6 _)

/-- **C05 (planning, panic half).** For every line, environment, command-output oracle and fuel,
tokenizing + the eight expansion passes + env draining + pipe splitting + redirection parsing never
reach a panic site. -/
theorem C05_plan_no_panic (se : SubstEnv) (f : Nat) (line : Str) : NoPanic (planOf se f line) :=
  (allNoPanic se f).2.2.2.2.2.2 line

end Cicada.C05
