import Cicada.Lemmas.C01
/-!
# C01 — quoted and escaped arguments reach the program verbatim

`Holds01` : the first pipeline of the line is planned as one stage whose argv is exactly the program
word followed by the argument strings, with no redirection, no stdin source, not in the background and
no per-command environment — i.e. no quoted character was acted on as an operator or expanded.
The chain modelled: `line_to_cmds`, `parse_line`, the expansion passes of `do_expansion` (seven calls in the Rust code,
eight in the model, where the two command substitutions are separate),
`drain_env_tokens`, the `&` test, `split_tokens_by_pipes`, `Command::from_tokens`,
`tokens_to_redirections` (then `argv = token texts`, core.rs).

Proved (`C01_partial`): every argument list in single or double quotes (any length, any characters the
style can express, the empty string included), every environment (variables, aliases, `$HOME`, glob and
command oracles), contexts *alone*, `; q`, `&& q`, `|| q`.
The escaped style and the `| q` context are in `Thm/C01esc.lean`: `C01_esc_partial` proves the statement for all three
styles and all five contexts on exactly the complement of the 8 finding classes (`guardEsc_iff`).  Two of the classes have
a computed witness against `Holds01` below (esc-tilde, esc-amp); Thm/C01tight has two more, for the tight line.
-/
namespace Cicada.C01
open Cicada Cicada.TokLemmas Cicada.PassLemmas Cicada.C03

/-- the plan of the first pipeline of a line (what the `plan1` correspondence stream observes) -/
def firstPlan (se : SubstEnv) (f : Nat) (line : Str) : Outcome (Except String Plan) :=
  match lineToCmds line with
  | [] => .err "empty"
  | item :: _ => planOf se f item

def Holds01 (se : SubstEnv) (f : Nat) (p : Str) (args : List (Style × Str)) (ctx : Ctx) : Prop :=
  ∃ plan, firstPlan se f (renderLine p args ctx) = .ok (.ok plan) ∧ obsOfPlan plan = expectedObs p args ctx

/-- the property at full strength: all three styles, all five contexts -/
def C01_full : Prop :=
  ∀ (se : SubstEnv) (p : Str) (args : List (Style × Str)) (ctx : Ctx),
    plainWord p = true → (lookup se.env.aliases p).isNone = true → p ≠ "xargs".toList →
    (args.all (fun x => okArg x.1 x.2) = true) →
    ∀ f, args.length + 3 < f → Holds01 se f p args ctx

theorem tokOf_inert (x : Style × Str) (h : styleOk x = true) : Inert (tokOf x) := by
  obtain ⟨s, a⟩ := x
  cases s with
  | sq => exact Or.inl rfl
  | dq =>
    refine Or.inr ⟨rfl, ?_⟩
    intro c hc
    simp [styleOk, okArg] at h
    have := h c hc
    simp_all [tokOf]
  | esc => simp [styleOk] at h

/-- Fuel `+ 3`: one unit for `planOf`, two for `do_expansion` and the program word (`doExpansion_prog`); one per argument
for the walk of a substitution pass. -/
theorem plan_renderCmd (se : SubstEnv) (f : Nat) (p : Str) (args : List (Style × Str))
    (hg : guard se.env p args = true) (hf : args.length + 3 < f) :
    planOf se f (renderCmd p args) =
      .ok (.ok { commands := [{ tokens := ([], p) :: args.map tokOf, redirectsTo := [], redirectFrom := none }],
                 envs := [], background := false }) := by
  simp only [guard, Bool.and_eq_true, decide_eq_true_eq] at hg
  obtain ⟨⟨⟨hp, hal⟩, hx⟩, ha⟩ := hg
  obtain ⟨hw, hl⟩ := plainWord_facts p hp
  have hal' : lookup se.env.aliases p = none := by
    cases h : lookup se.env.aliases p with
    | none => rfl
    | some v => rw [h] at hal; simp at hal
  have hin : ∀ t ∈ args.map tokOf, Inert t := by
    intro t ht
    simp only [List.mem_map] at ht
    obtain ⟨x, hx1, rfl⟩ := ht
    exact tokOf_inert x ((List.all_eq_true.mp ha) x hx1)
  cases f with
  | zero => omega
  | succ f =>
    simp only [planOf]
    rw [parseLine_renderCmd p args hw hl ha]
    rw [doExpansion_id se p _ f hw hl hin hal' (by simpa using hx) (by simp; omega)]
    simp only [Outcome.map, Outcome.bind]
    rw [plan_args p _ hw fun t ht => Or.inl (inert_sep_ne t (hin t ht))]

theorem C01_partial (se : SubstEnv) (p : Str) (args : List (Style × Str)) (ctx : Ctx) (f : Nat)
    (hg : guard se.env p args = true) (hctx : ctx ≠ .pipe) (hf : args.length + 3 < f) :
    Holds01 se f p args ctx := by
  have hg' := hg
  simp only [guard, Bool.and_eq_true, decide_eq_true_eq] at hg'
  obtain ⟨⟨⟨hp, _⟩, _⟩, ha⟩ := hg'
  obtain ⟨hw, hl⟩ := plainWord_facts p hp
  have hne : p ≠ [] := by intro e; subst e; simp at hl
  obtain ⟨rest, hitems⟩ := lineToCmds_firstSpaced p args ctx hw hne
    (fun x hx => (styleOk_wordOk (List.all_eq_true.mp ha x hx)).1) (fun _ => styleOk_lastNoWs ha)
  rw [pipeSfx, if_neg hctx, List.append_nil] at hitems
  refine ⟨{ commands := [{ tokens := ([], p) :: args.map tokOf, redirectsTo := [], redirectFrom := none }],
             envs := [], background := false }, ?_, ?_⟩
  · simp only [firstPlan, hitems]
    exact plan_renderCmd se f p args hg hf
  · -- the token of a quoted argument holds the argument's text
    have htexts : (args.map tokOf).map (·.2) = args.map (·.2) := by
      rw [List.map_map]
      exact List.map_congr_left fun ⟨s, a⟩ _ => by cases s <;> rfl
    simp [obsOfPlan, expectedObs, expectedArgv, hctx, htexts]

theorem length_le_argsText (args : List (Style × Str)) : args.length ≤ (argsText args).length := by
  induction args with
  | nil => simp
  | cons x xs ih =>
    obtain ⟨s, a⟩ := x
    simp only [argsText, List.map_cons, List.flatten_cons, List.length_append, List.length_cons] at ih ⊢
    omega

/-- the driver's fuel is enough, whatever follows the command (the `plan1` stream plans the first item; the line's fuel
is larger) -/
theorem planFuel_enough_sfx (p : Str) (args : List (Style × Str)) (sfx : Str) :
    args.length + 5 < planFuel (renderCmd p args ++ sfx) := by
  have h := length_le_argsText args
  simp only [planFuel, renderCmd, List.length_append, argsText_eq]
  omega

theorem planFuel_enough (p : Str) (args : List (Style × Str)) (ctx : Ctx) :
    args.length + 3 < planFuel (renderLine p args ctx) :=
  Nat.lt_trans (by omega) (planFuel_enough_sfx p args ctx.suffix)

/-! ### the escaped style violates the property (open known findings; witnesses run through the real code by the check) -/

def wEnv : SubstEnv := { env := { exported := [("HOME".toList, "/h".toList)] }, cmdOut := fun _ => [] }

-- for the computed witnesses (`decide +kernel` on a `firstPlan … = .ok (.ok plan)`)
deriving instance DecidableEq for Except

theorem firstPlan_refutes {se : SubstEnv} {f : Nat} {line : Str} {o : Obs} (plan : Plan)
    (h : firstPlan se f line = .ok (.ok plan)) (hne : obsOfPlan plan ≠ o) :
    ¬ ∃ plan', firstPlan se f line = .ok (.ok plan') ∧ obsOfPlan plan' = o := by
  intro ⟨plan', h1, h2⟩
  rw [h] at h1
  injection h1 with h1; injection h1 with h1
  exact hne (h1 ▸ h2)

/-- `prog \~a` : the escaped tilde is expanded (KF-C01-esc-tilde) -/
theorem C01_finding_esc_tilde :
    ¬ Holds01 wEnv 6 "prog".toList [(.esc, "~a".toList)] .alone :=
  firstPlan_refutes
    { commands := [{ tokens := [([], "prog".toList), ([], "/ha".toList)], redirectsTo := [], redirectFrom := none }],
      envs := [], background := false }
    (by decide +kernel) (by simp [obsOfPlan, expectedObs, expectedArgv])

/-- `prog x \&` : an escaped `&` as last word backgrounds the command (KF-C01-esc-amp) -/
theorem C01_finding_esc_amp :
    ¬ Holds01 wEnv 6 "prog".toList [(.sq, "x".toList), (.esc, "&".toList)] .alone :=
  firstPlan_refutes
    { commands := [{ tokens := [([], "prog".toList), (['\''], "x".toList)], redirectsTo := [], redirectFrom := none }],
      envs := [], background := true }
    (by decide +kernel) (by simp [obsOfPlan, expectedObs, expectedArgv])

theorem C01_full_false : ¬ C01_full := by
  intro h
  exact C01_finding_esc_tilde
    (h wEnv "prog".toList [(.esc, "~a".toList)] .alone (by decide) (by rfl) (by decide) (by decide) 6 (by decide))

example : guard wEnv.env "prog".toList [(.sq, "a|b; $X * {x,y} ~ > f &".toList), (.dq, "<<< 'q' #".toList), (.sq, [])] = true := by
  lit_lists
  decide +kernel

end Cicada.C01
