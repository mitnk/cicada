import Cicada.Lemmas.Tokenizer
/-!
# What the passes of `do_expansion` and the planner leave alone

Every expansion pass and every planning step leaves a token alone under a condition on its tag and text: per pass one
lemma with the pass's own gate (`_gate`, `_of`; the `_of` forms of brace, glob and range ask for the absence of the trigger
character instead), and two packagings of the conditions for whole token lists: `Inert` / `NoSubst` / `ArgTok` for quoted
tokens, `Quiet` / `ArgTok'` (names in `Cicada.C01`) also for `\`-tagged and harmless untagged ones and the decoy stage
`| q` (suffix `_G`: both contexts).  `doExpansion_prog` puts the passes together for a plain program word followed by
argument tokens.
-/
namespace Cicada.PassLemmas
open Cicada Cicada.TokLemmas

/-- a token no pass may touch: single-quoted, or double-quoted without `$` and backquote -/
def Inert (t : Tok) : Prop := t.1 = ['\''] ∨ (t.1 = ['"'] ∧ ∀ c ∈ t.2, c ≠ '$' ∧ c ≠ '`')

theorem inert_sep_ne (t : Tok) (h : Inert t) : t.1 ≠ [] := by
  rcases h with h | ⟨h, _⟩ <;> simp [h]

theorem reDollarSpecial_false (t : Str) (h : ∀ c ∈ t, c ≠ '$') : reDollarSpecial t = false := by
  induction t with
  | nil => rfl
  | cons c cs ih =>
    have hc := h c (by simp)
    simp [reDollarSpecial, hc, ih (fun x hx => h x (by simp [hx]))]

theorem reDollarName_false (t : Str) (h : ∀ c ∈ t, c ≠ '$') : reDollarName t = false := by
  induction t with
  | nil => rfl
  | cons c cs ih =>
    have hc := h c (by simp)
    simp [reDollarName, hc, ih (fun x hx => h x (by simp [hx]))]

theorem envInToken_false (t : Str) (h : ∀ c ∈ t, c ≠ '$') : envInToken t = false := by
  simp [envInToken, reDollarSpecial_false t h, reDollarName_false t h]

theorem reDollarParen_false (t : Str) (h : ∀ c ∈ t, c ≠ '$') : reDollarParen t = false := by
  induction t with
  | nil => rfl
  | cons c cs ih =>
    have hc := h c (by simp)
    simp [reDollarParen, hc, ih (fun x hx => h x (by simp [hx]))]

theorem shouldDoDollar_false (t : Str) (h : ∀ c ∈ t, c ≠ '$') : shouldDoDollar t = false := by
  simp [shouldDoDollar, reDollarParen_false t h]

theorem matchBackquote_none (t : Str) (h : ∀ c ∈ t, c ≠ '`') : matchBackquote t = none := by
  have : ∀ t : Str, (∀ c ∈ t, c ≠ '`') → t.dropWhile (fun x => !decide (x = '`')) = [] := by
    intro t
    induction t with
    | nil => intro _; rfl
    | cons c cs ih =>
      intro h
      have hc := h c (by simp)
      simp [List.dropWhile, hc, ih (fun x hx => h x (by simp [hx]))]
  have e := this t h
  simp only [matchBackquote, ne_eq, decide_not]
  rw [e]

theorem needExpandBrace_false (t : Str) (h : ∀ c ∈ t, c ≠ '{') : needExpandBrace t = false := by
  induction t with
  | nil => rfl
  | cons c cs ih =>
    have hc := h c (by simp)
    simp [needExpandBrace, hc, ih (fun x hx => h x (by simp [hx]))]

theorem findRange_none (t : Str) (h : ∀ c ∈ t, c ≠ '{') : findRange t = none := by
  have key : ∀ (t acc : Str), (∀ c ∈ t, c ≠ '{') → findRangeGo acc t = none := by
    intro t
    induction t with
    | nil => intro acc _; rfl
    | cons c cs ih =>
      intro acc h
      have hc := h c (by simp)
      simp [findRangeGo, hc, ih _ (fun x hx => h x (by simp [hx]))]
  exact key t [] h

theorem word_no (p : Str) (hp : p.all wordChar = true) (x : Char) (hx : wordChar x = false) : ∀ c ∈ p, c ≠ x := by
  intro c hc e
  subst e
  have := (List.all_eq_true.mp hp) c hc
  rw [hx] at this
  exact Bool.noConfusion this

/-- the token list the passes see: program word + inert tokens -/
def Shape (p : Str) (ts qs : List Tok) : Prop :=
  ts = ([], p) :: qs ∧ p.all wordChar = true ∧ p ≠ [] ∧ ∀ t ∈ qs, Inert t

theorem _root_.Cicada.C01.expandAliasGo_false_append (e : Env) (qs tl : List Tok) (h : ∀ t ∈ qs, ¬ (t.1 = [] ∧ t.2 = ['|'])) :
    expandAliasGo e false (qs ++ tl) = qs ++ expandAliasGo e false tl := by
  induction qs with
  | nil => rfl
  | cons t rest ih =>
    obtain ⟨sep, text⟩ := t
    have hne := h (sep, text) (by simp)
    simp only at hne
    simp [expandAliasGo, hne, ih (fun x hx => h x (by simp [hx]))]

theorem expandAliasGo_false_of (e : Env) (qs : List Tok) (h : ∀ t ∈ qs, ¬ (t.1 = [] ∧ t.2 = ['|'])) :
    expandAliasGo e false qs = qs := by
  simpa [expandAliasGo] using C01.expandAliasGo_false_append e qs [] h

theorem expandAliasGo_false_inert (e : Env) (qs : List Tok) (h : ∀ t ∈ qs, t.1 ≠ []) :
    expandAliasGo e false qs = qs :=
  expandAliasGo_false_of e qs fun t ht hp => h t ht hp.1

theorem expandAlias_id (e : Env) (p : Str) (qs : List Tok) (h : ∀ t ∈ qs, t.1 ≠ [])
    (hp1 : p ≠ ['|']) (hp2 : p ≠ "xargs".toList) (hp3 : lookup e.aliases p = none) :
    expandAlias e (([], p) :: qs) = ([], p) :: qs := by
  have hp2' : ¬ p = ['x', 'a', 'r', 'g', 's'] := hp2
  simp [expandAlias, expandAliasGo, hp1, hp2', hp3, expandAliasGo_false_inert e qs h]

theorem _root_.Cicada.C01.map_fix {α} (f : α → α) (l : List α) (h : ∀ t ∈ l, f t = t) : l.map f = l := by
  induction l with
  | nil => rfl
  | cons t rest ih => simp [h t (by simp), ih (fun x hx => h x (by simp [hx]))]

theorem expandHome_of (e : Env) (ts : List Tok) (h : ∀ t ∈ ts, t.1 ≠ [] ∨ t.2.head? ≠ some '~') : expandHome e ts = ts := by
  apply C01.map_fix
  intro ⟨sep, text⟩ ht
  rcases h _ ht with h1 | h1 <;> simp only at h1 <;> simp [h1]

theorem expandBrace_gate (ts : List Tok) (h : ∀ t ∈ ts, t.1 ≠ [] ∨ needExpandBrace t.2 = false) :
    expandBrace ts = .ok ts := by
  induction ts with
  | nil => rfl
  | cons t rest ih =>
    obtain ⟨sep, text⟩ := t
    have c : sep ≠ [] ∨ (!needExpandBrace text) = true :=
      (h (sep, text) (by simp)).imp id fun hb => by rw [hb]; rfl
    simp only [expandBrace, ih fun x hx => h x (by simp [hx]), Outcome.bind, if_pos c]

theorem expandGlobGo_gate (e : Env) (ts : List Tok) (h : ∀ t ∈ ts, t.1 ≠ [] ∨ ¬ ('*' ∈ t.2)) :
    expandGlobGo e ts = some ts := by
  induction ts with
  | nil => rfl
  | cons t rest ih =>
    obtain ⟨sep, text⟩ := t
    have c : sep ≠ [] ∨ (!text.contains '*') = true :=
      (h (sep, text) (by simp)).imp id fun hb => by simpa using hb
    simp only [expandGlobGo, globToken, if_pos c, ih fun x hx => h x (by simp [hx]), Option.map_some]

theorem expandRangeGo_gate (ts : List Tok) (h : ∀ t ∈ ts, t.1 ≠ [] ∨ findRange t.2 = none) :
    expandRangeGo ts = some ts := by
  induction ts with
  | nil => rfl
  | cons t rest ih =>
    obtain ⟨sep, text⟩ := t
    have ih' := ih fun x hx => h x (by simp [hx])
    rcases h (sep, text) (by simp) with h1 | h1 <;> simp only at h1
    · simp [expandRangeGo, rangeToken, ih', h1]
    · by_cases hs : sep = [] <;> simp [expandRangeGo, rangeToken, ih', hs, h1]

theorem expandBrace_of (ts : List Tok) (h : ∀ t ∈ ts, t.1 ≠ [] ∨ ∀ c ∈ t.2, c ≠ '{') : expandBrace ts = .ok ts :=
  expandBrace_gate ts fun t ht => (h t ht).imp id (needExpandBrace_false _)

theorem expandGlob_of (e : Env) (ts : List Tok) (h : ∀ t ∈ ts, t.1 ≠ [] ∨ ∀ c ∈ t.2, c ≠ '*') : expandGlob e ts = ts := by
  simp [expandGlob, expandGlobGo_gate e ts fun t ht => (h t ht).imp id fun hb hm => hb '*' hm rfl]

theorem expandBraceRange_of (ts : List Tok) (h : ∀ t ∈ ts, t.1 ≠ [] ∨ ∀ c ∈ t.2, c ≠ '{') : expandBraceRange ts = ts := by
  simp [expandBraceRange, expandRangeGo_gate ts fun t ht => (h t ht).imp id (findRange_none _)]

theorem expandHome_id (e : Env) (p : Str) (qs : List Tok) (h : ∀ t ∈ qs, t.1 ≠ []) (hp : p.head? ≠ some '~') :
    expandHome e (([], p) :: qs) = ([], p) :: qs :=
  expandHome_of e _ (List.forall_mem_cons.2 ⟨Or.inr hp, fun t ht => Or.inl (h t ht)⟩)

theorem expandBrace_id (p : Str) (qs : List Tok) (h : ∀ t ∈ qs, t.1 ≠ []) (hp : ∀ c ∈ p, c ≠ '{') :
    expandBrace (([], p) :: qs) = .ok (([], p) :: qs) :=
  expandBrace_of _ (List.forall_mem_cons.2 ⟨Or.inr hp, fun t ht => Or.inl (h t ht)⟩)

theorem expandGlob_id (e : Env) (p : Str) (qs : List Tok) (h : ∀ t ∈ qs, t.1 ≠ []) (hp : ∀ c ∈ p, c ≠ '*') :
    expandGlob e (([], p) :: qs) = ([], p) :: qs :=
  expandGlob_of e _ (List.forall_mem_cons.2 ⟨Or.inr hp, fun t ht => Or.inl (h t ht)⟩)

theorem expandBraceRange_id (p : Str) (qs : List Tok) (h : ∀ t ∈ qs, t.1 ≠ []) (hp : ∀ c ∈ p, c ≠ '{') :
    expandBraceRange (([], p) :: qs) = ([], p) :: qs :=
  expandBraceRange_of _ (List.forall_mem_cons.2 ⟨Or.inr hp, fun t ht => Or.inl (h t ht)⟩)

def NoSubst (t : Tok) : Prop :=
  t.1 = ['\''] ∨ ((t.1 = ['"'] ∨ t.1 = []) ∧ matchBackquote t.2 = none ∧ shouldDoDollar t.2 = false)

theorem inert_noSubst (t : Tok) (h : Inert t) : NoSubst t := by
  rcases h with h | ⟨h1, h2⟩
  · exact Or.inl h
  · exact Or.inr ⟨Or.inl h1, matchBackquote_none _ (fun c hc => (h2 c hc).2), shouldDoDollar_false _ (fun c hc => (h2 c hc).1)⟩

theorem substDotGo_of (se : SubstEnv) (ts : List Tok) : ∀ (f idx : Nat), ts.length < f →
    (∀ t ∈ ts, t.1 ≠ ['`'] ∧ ((t.1 = ['"'] ∨ t.1 = []) → matchBackquote t.2 = none)) →
    substDotGo se f idx ts = .ok [] := by
  induction ts with
  | nil => intro f idx hf _; cases f with
    | zero => omega
    | succ f => rfl
  | cons t rest ih =>
    intro f idx hf h
    cases f with
    | zero => simp at hf
    | succ f =>
      obtain ⟨sep, tok⟩ := t
      have hrest := ih f (idx + 1) (by simp at hf; omega) (fun x hx => h x (by simp [hx]))
      obtain ⟨h1, h2⟩ := h (sep, tok) (by simp)
      simp only at h1 h2
      by_cases hq : sep = ['"'] ∨ sep = []
      · simp only [substDotGo, if_neg h1, if_pos hq, h2 hq, hrest]
      · simp only [substDotGo, if_neg h1, if_neg hq, hrest]

theorem substDollarGo_of (se : SubstEnv) (ts : List Tok) : ∀ (f idx : Nat), ts.length < f →
    (∀ t ∈ ts, t.1 = ['\''] ∨ t.1 = ['\\'] ∨ shouldDoDollar t.2 = false) →
    substDollarGo se f idx ts = .ok (some []) := by
  induction ts with
  | nil => intro f idx hf _; cases f with
    | zero => omega
    | succ f => rfl
  | cons t rest ih =>
    intro f idx hf h
    cases f with
    | zero => simp at hf
    | succ f =>
      obtain ⟨sep, tok⟩ := t
      have hrest := ih f (idx + 1) (by simp at hf; omega) (fun x hx => h x (by simp [hx]))
      have c : sep = ['\''] ∨ sep = ['\\'] ∨ (!shouldDoDollar tok) = true :=
        (h (sep, tok) (by simp)).imp id (Or.imp id fun hm => by rw [hm]; rfl)
      simp only [substDollarGo, if_pos c, hrest]

theorem substDotGo_none (se : SubstEnv) (ts : List Tok) (f idx : Nat) (hf : ts.length < f) (h : ∀ t ∈ ts, NoSubst t) :
    substDotGo se f idx ts = .ok [] :=
  substDotGo_of se ts f idx hf fun t ht => by
    rcases h t ht with h1 | ⟨_, hm, _⟩
    · exact ⟨by simp [h1], fun hq => by simp [h1] at hq⟩
    · exact ⟨by rcases ‹_ ∨ _› with h1 | h1 <;> simp [h1], fun _ => hm⟩

theorem substDollarGo_none (se : SubstEnv) (ts : List Tok) (f idx : Nat) (hf : ts.length < f) (h : ∀ t ∈ ts, NoSubst t) :
    substDollarGo se f idx ts = .ok (some []) :=
  substDollarGo_of se ts f idx hf fun t ht => (h t ht).imp id fun h2 => Or.inr h2.2.2

theorem wrapBody_id (q : Char) (n : Str) (h : ∀ c ∈ n, c ≠ q) : ∀ met prev, wrapBody [q] met prev n = n := by
  induction n with
  | nil => intro _ _; rfl
  | cons c cs ih =>
    intro met prev
    have hc : c ≠ q := h c (by simp)
    simp [wrapBody, hc, ih (fun x hx => h x (by simp [hx]))]

/-- tokens that planning treats as plain argument words: tagged, or untagged text that is neither `|` nor `&`, does not
start with `<` and holds no `>` -/
def ArgTok (t : Tok) : Prop :=
  t.1 ≠ [] ∨ (t.2 ≠ ['|'] ∧ t.2.head? ≠ some '<' ∧ t.2 ≠ ['&'] ∧ ∀ c ∈ t.2, c ≠ '>')

theorem _root_.Cicada.C01.splitByPipesGo_append (ts : List Tok) : ∀ (cmd rest : List Tok) (cmds : List (List Tok)),
    (∀ t ∈ ts, ¬ (t.1 = [] ∧ t.2 = ['|'])) →
    splitByPipesGo cmd (ts ++ rest) cmds = splitByPipesGo (cmd ++ ts) rest cmds := by
  induction ts with
  | nil => intro cmd rest cmds _; simp
  | cons t more ih =>
    intro cmd rest cmds h
    obtain ⟨sep, v⟩ := t
    have h1 := h (sep, v) (by simp)
    simp only at h1
    simp only [List.cons_append, splitByPipesGo, h1, ↓reduceIte]
    rw [ih _ _ _ (fun x hx => h x (by simp [hx]))]
    simp [List.append_assoc]

theorem splitByPipesGo_noPipe (ts : List Tok) : ∀ (cmd : List Tok) (cmds : List (List Tok)),
    (∀ t ∈ ts, ¬ (t.1 = [] ∧ t.2 = ['|'])) →
    splitByPipesGo cmd ts cmds = if cmd ++ ts = [] then [] else cmds ++ [cmd ++ ts] := by
  intro cmd cmds h
  have := C01.splitByPipesGo_append ts cmd [] cmds h
  rw [List.append_nil] at this
  rw [this, splitByPipesGo]

theorem reEnvAssign_none (p : Str) (h : ∀ c ∈ p, c ≠ '=') : reEnvAssign p = none := by
  have key : ∀ p : Str, (∀ c ∈ p, c ≠ '=') → ∀ v, p.dropWhile isNameChar ≠ '=' :: v := by
    intro p
    induction p with
    | nil => intro _ v; simp
    | cons c cs ih =>
      intro h v
      simp only [List.dropWhile]
      split
      · exact ih (fun x hx => h x (by simp [hx])) v
      · intro e; simp at e; exact h c (by simp) e.1
  unfold reEnvAssign
  split
  · rename_i v hv; exact absurd hv (key p h v)
  · rfl

/-- **`do_expansion` on `p q₀`, pass by pass**: the arguments go `q0 → q1` (`expand_env`) `→ q2` (filename expansion)
`→ q3 → q4` (the two substitution passes, each through its list of updates); the other four passes leave them alone.
Fuel: `do_expansion` spends one unit, each substitution pass one more for the program word, so the passes run on the
arguments from index `1` with `f` left of `f + 2`.  `hprompt`: the line `export PROMPT=…` is returned as it is, so there
the result must be the input. -/
theorem doExpansion_prog (se : SubstEnv) (p : Str) (q0 q1 q2 q3 q4 : List Tok) (u1 u2 : List (Nat × Str)) (f : Nat)
    (hw : p.all wordChar = true) (hl : p.any isAlphaA = true)
    (ha : lookup se.env.aliases p = none) (hx : p ≠ "xargs".toList)
    (hprompt : ∀ t, q0.head? = some t → p = "export".toList → startsWith t.2 "PROMPT=".toList = true → q4 = q0)
    (halias : expandAliasGo se.env false q0 = q0)
    (hhome : ∀ t ∈ q0, t.1 ≠ [] ∨ t.2.head? ≠ some '~')
    (henv : expandEnv se.env q0 = q1)
    (hbrace : ∀ t ∈ q1, t.1 ≠ [] ∨ needExpandBrace t.2 = false)
    (hglob : expandGlobGo se.env q1 = some q2)
    (hdot : substDotGo se f 1 q2 = .ok u1)
    (hq3 : doExpansion.applyUpdates (([], p) :: q2) u1 = ([], p) :: q3)
    (hdol : substDollarGo se f 1 q3 = .ok (some u2))
    (hq4 : doExpansion.applyUpdates (([], p) :: q3) u2 = ([], p) :: q4)
    (hrange : ∀ t ∈ q4, t.1 ≠ [] ∨ findRange t.2 = none) :
    doExpansion se (f + 2) (([], p) :: q0) = .ok (([], p) :: q4) := by
  have n3 := word_no p hw '$' (by decide)
  have n4 := word_no p hw '{' (by decide)
  have hp1 : p ≠ ['|'] := fun e => word_no p hw '|' (by decide) '|' (by simp [e]) rfl
  have hx' : ¬ p = ['x', 'a', 'r', 'g', 's'] := hx
  have hph : p.head? ≠ some '~' := fun e => word_no p hw '~' (by decide) '~' (List.mem_of_mem_head? e) rfl
  have hstar : ¬ ('*' ∈ p) := fun hm => word_no p hw '*' (by decide) '*' hm rfl
  have harith : isArithmetic (tokensToLine (([], p) :: q0)) = false := by
    apply any_alpha_not_arith
    simp only [tokensToLine, List.map_cons]
    apply joinWith_any_head
    simpa [tokenToText] using hl
  have e1 : expandAlias se.env (([], p) :: q0) = ([], p) :: q0 := by
    simp [expandAlias, expandAliasGo, hp1, hx', ha, halias]
  have e2 := expandHome_of se.env (([], p) :: q0) (List.forall_mem_cons.2 ⟨Or.inr hph, hhome⟩)
  have e3 : expandEnv se.env (([], p) :: q0) = ([], p) :: q1 := by
    rw [← henv]; simp [expandEnv, envInToken_false p n3]
  have e4 := expandBrace_gate (([], p) :: q1) (List.forall_mem_cons.2 ⟨Or.inr (needExpandBrace_false p n4), hbrace⟩)
  have e5 : expandGlob se.env (([], p) :: q1) = ([], p) :: q2 := by
    simp [expandGlob, expandGlobGo, globToken, hstar, hglob]
  have e6 : substDotGo se (f + 1) 0 (([], p) :: q2) = .ok u1 := by
    simp [substDotGo, matchBackquote_none p (word_no p hw '`' (by decide)), hdot]
  have e7 : substDollarGo se (f + 1) 0 (([], p) :: q3) = .ok (some u2) := by
    simp [substDollarGo, shouldDoDollar_false p n3, hdol]
  have e8 := expandRangeGo_gate (([], p) :: q4) (List.forall_mem_cons.2 ⟨Or.inr (findRange_none p n4), hrange⟩)
  simp only [doExpansion, harith, Bool.false_eq_true, ↓reduceIte]
  split
  · rename_i hpr
    cases q0 with
    | nil => simp at hpr
    | cons t r => rw [hprompt t rfl hpr.2.1 hpr.2.2]
  · rw [e1, e2, e3, e4]
    simp only [Outcome.bind]
    rw [e5, e6]
    simp only
    rw [hq3, e7]
    simp only [hq4, expandBraceRange, e8, Option.getD_some]

theorem doExpansion_prog_noSubst (se : SubstEnv) (p : Str) (q0 q1 q2 : List Tok) (f : Nat)
    (hw : p.all wordChar = true) (hl : p.any isAlphaA = true)
    (ha : lookup se.env.aliases p = none) (hx : p ≠ "xargs".toList)
    (hprompt : ∀ t, q0.head? = some t → p = "export".toList → startsWith t.2 "PROMPT=".toList = true → q2 = q0)
    (halias : expandAliasGo se.env false q0 = q0)
    (hhome : ∀ t ∈ q0, t.1 ≠ [] ∨ t.2.head? ≠ some '~')
    (henv : expandEnv se.env q0 = q1)
    (hbrace : ∀ t ∈ q1, t.1 ≠ [] ∨ needExpandBrace t.2 = false)
    (hglob : expandGlobGo se.env q1 = some q2)
    (hns : ∀ t ∈ q2, NoSubst t)
    (hrange : ∀ t ∈ q2, t.1 ≠ [] ∨ findRange t.2 = none)
    (hf : q2.length + 2 < f) :
    doExpansion se f (([], p) :: q0) = .ok (([], p) :: q2) := by
  obtain ⟨f, rfl⟩ : ∃ g, f = g + 2 := ⟨f - 2, by omega⟩
  exact doExpansion_prog se p q0 q1 q2 q2 q2 [] [] f hw hl ha hx hprompt halias hhome henv hbrace hglob
    (substDotGo_none se q2 f 1 (by omega) hns) rfl (substDollarGo_none se q2 f 1 (by omega) hns) rfl hrange

end Cicada.PassLemmas

namespace Cicada.C01
open Cicada Cicada.TokLemmas Cicada.PassLemmas

/-- a token that every expansion pass leaves alone: single-quoted; or free of `$` and backquote and either
double-quoted, `\`-tagged, or untagged without `{`, `*` and a leading `~` -/
def Quiet (t : Tok) : Prop :=
  t.1 = ['\''] ∨
  ((∀ c ∈ t.2, c ≠ '$' ∧ c ≠ '`') ∧
    (t.1 = ['"'] ∨ t.1 = ['\\'] ∨ (t.1 = [] ∧ (∀ c ∈ t.2, c ≠ '{' ∧ c ≠ '*') ∧ t.2.head? ≠ some '~')))

theorem Quiet.tagged_or {t : Tok} (h : Quiet t) :
    t.1 ≠ [] ∨ ((∀ c ∈ t.2, c ≠ '{' ∧ c ≠ '*') ∧ t.2.head? ≠ some '~') := by
  rcases h with h1 | ⟨_, h1 | h1 | ⟨_, h2, h3⟩⟩
  · exact Or.inl (by simp [h1])
  · exact Or.inl (by simp [h1])
  · exact Or.inl (by simp [h1])
  · exact Or.inr ⟨h2, h3⟩

theorem expandEnv_quiet (e : Env) (ts : List Tok) (h : ∀ t ∈ ts, Quiet t) : expandEnv e ts = ts := by
  apply map_fix
  intro t ht
  obtain ⟨sep, text⟩ := t
  rcases h _ ht with h1 | ⟨h0, _⟩
  · simp only at h1; simp [h1]
  · simp only at h0
    simp [envInToken_false text (fun c hc => (h0 c hc).1)]

theorem substDotGo_quiet (se : SubstEnv) (ts : List Tok) (f idx : Nat) (hf : ts.length < f) (h : ∀ t ∈ ts, Quiet t) :
    substDotGo se f idx ts = .ok [] :=
  substDotGo_of se ts f idx hf fun t ht => by
    rcases h t ht with h1 | ⟨h0, h1⟩
    · exact ⟨by simp [h1], fun hq => by simp [h1] at hq⟩
    · exact ⟨by rcases h1 with h1 | h1 | ⟨h1, _⟩ <;> simp [h1], fun _ => matchBackquote_none _ fun c hc => (h0 c hc).2⟩

theorem substDollarGo_quiet (se : SubstEnv) (ts : List Tok) (f idx : Nat) (hf : ts.length < f) (h : ∀ t ∈ ts, Quiet t) :
    substDollarGo se f idx ts = .ok (some []) :=
  substDollarGo_of se ts f idx hf fun t ht =>
    (h t ht).imp id fun h2 => Or.inr (shouldDoDollar_false _ fun c hc => (h2.1 c hc).1)

theorem word_quiet (p : Str) (hw : p.all wordChar = true) : Quiet ([], p) := by
  refine Or.inr ⟨fun c hc => ⟨word_no p hw '$' (by decide) c hc, word_no p hw '`' (by decide) c hc⟩,
    Or.inr (Or.inr ⟨rfl, fun c hc => ⟨word_no p hw '{' (by decide) c hc, word_no p hw '*' (by decide) c hc⟩, ?_⟩)⟩
  intro e
  have e' : p.head? = some '~' := e
  exact word_no p hw '~' (by decide) '~' (List.mem_of_mem_head? e') rfl

theorem doExpansion_quiet (se : SubstEnv) (p : Str) (ts : List Tok) (f : Nat)
    (hw : p.all wordChar = true) (hl : p.any isAlphaA = true) (hq : ∀ t ∈ ts, Quiet t)
    (ha : lookup se.env.aliases p = none) (hx : p ≠ "xargs".toList)
    (hal : expandAliasGo se.env false ts = ts) (hf : ts.length + 2 < f) :
    doExpansion se f (([], p) :: ts) = .ok (([], p) :: ts) := by
  obtain ⟨f, rfl⟩ : ∃ g, f = g + 2 := ⟨f - 2, by omega⟩
  exact doExpansion_prog se p ts ts ts ts ts [] [] f hw hl ha hx (fun _ _ _ _ => rfl) hal
    (fun t ht => (hq t ht).tagged_or.imp id (·.2)) (expandEnv_quiet _ _ hq)
    (fun t ht => (hq t ht).tagged_or.imp id fun h => needExpandBrace_false _ fun c hc => (h.1 c hc).1)
    (expandGlobGo_gate _ _ fun t ht => (hq t ht).tagged_or.imp id fun h hm => (h.1 '*' hm).2 rfl)
    (substDotGo_quiet se ts f 1 (by omega) hq) rfl (substDollarGo_quiet se ts f 1 (by omega) hq) rfl
    (fun t ht => (hq t ht).tagged_or.imp id fun h => findRange_none _ fun c hc => (h.1 c hc).1)

/-- tokens that planning treats as plain argument words: tagged, or untagged text that is not `|`, does not start
with `<` and holds no `>` (an untagged `&` is fine unless it is the last token) -/
def ArgTok' (t : Tok) : Prop :=
  t.1 ≠ [] ∨ (t.2 ≠ ['|'] ∧ t.2.head? ≠ some '<' ∧ ∀ c ∈ t.2, c ≠ '>')

theorem word_argTok' (p : Str) (hw : p.all wordChar = true) : ArgTok' ([], p) := by
  refine Or.inr ⟨?_, ?_, word_no p hw '>' (by decide)⟩
  · intro e; exact word_no p hw '|' (by decide) '|' (by have e' : p = _ := e; rw [e']; simp) rfl
  · intro e
    have e' : p.head? = some '<' := e
    exact word_no p hw '<' (by decide) '<' (List.mem_of_mem_head? e') rfl

theorem splitAttached_args : ∀ (ts : List Tok), (∀ t ∈ ts, ArgTok' t) → splitAttached ts = ts := by
  intro ts
  induction ts with
  | nil => intro _; rfl
  | cons t rest ih =>
    intro h
    obtain ⟨sep, text⟩ := t
    have ht := h (sep, text) List.mem_cons_self
    have hr := ih (fun x hx => h x (List.mem_cons_of_mem _ hx))
    unfold splitAttached
    have hnot : ∀ k, sep = [] → text.take (k + 1) ≠ '<' :: List.replicate k '<' := by
      intro k hs e
      rcases ht with h1 | ⟨_, h2, _⟩
      · exact h1 hs
      · cases text with
        | nil => simp at e
        | cons c cs => simp at e h2; exact h2 e.1
    have c1 : ¬ (sep = [] ∧ text.length > 3 ∧ text.take 3 = ['<', '<', '<']) := fun ⟨a, _, b⟩ => hnot 2 a (by simpa using b)
    have c2 : ¬ (sep = [] ∧ text.length > 1 ∧ text.take 1 = ['<'] ∧ text.take 2 ≠ ['<', '<']) := fun ⟨a, _, b, _⟩ => hnot 0 a (by simpa using b)
    rw [if_neg c1, if_neg c2, hr]

theorem redirGo_args (ts : List Tok) : ∀ (st : RState), st.cont = false → (∀ t ∈ ts, ArgTok' t) →
    redirGo st ts = .ok { st with toks := st.toks ++ ts } := by
  induction ts with
  | nil => intro st _ _; simp [redirGo]
  | cons t rest ih =>
    intro st hc h
    obtain ⟨sep, word⟩ := t
    have hstep : redirStep st (sep, word) = .ok { st with toks := st.toks ++ [(sep, word)] } := by
      rcases h (sep, word) (by simp) with h1 | ⟨_, _, h5⟩
      · simp only at h1; simp [redirStep, h1, hc]
      · simp only at h5
        have : ¬ ('>' ∈ word) := fun hm => h5 '>' hm rfl
        by_cases hs : sep = []
        · simp [redirStep, hs, hc, this]
        · simp [redirStep, hs, hc]
    simp only [redirGo, hstep]
    rw [ih _ (by simpa using hc) (fun x hx => h x (by simp [hx]))]
    simp [List.append_assoc]

theorem fromLoop_args (ts : List Tok) (n : Nat) (h : ∀ t ∈ ts, ArgTok' t) :
    fromLoop n (ts, [], []) = (ts, [], []) := by
  cases n with
  | zero => rfl
  | succ n =>
    have : ts.any (fun x => x.1 = [] ∧ (x.2 = ['<'] ∨ x.2 = ['<', '<', '<'])) = false := by
      simp only [List.any_eq_false, decide_eq_true_eq]
      intro x hx ⟨h1, h2⟩
      rcases h x hx with h3 | ⟨_, h3, _⟩
      · exact h3 h1
      · rcases h2 with h2 | h2 <;> (rw [h2] at h3; simp at h3)
    simp only [fromLoop]
    rw [this]
    simp

theorem fromTokens_args (ts : List Tok) (hne : ts ≠ []) (h : ∀ t ∈ ts, ArgTok' t) :
    fromTokens ts = .ok { tokens := ts, redirectsTo := [], redirectFrom := none } := by
  have hr : tokensToRedirections ts = .ok (ts, []) := by
    simp [tokensToRedirections, redirGo_args ts {} rfl h]
  simp [fromTokens, splitAttached_args ts h, fromLoop_args ts _ h, hr, hne]

/-- the tokens of the decoy stage `| q` that `Ctx.suffix` appends in the pipe context -/
def pipeToks (ctx : Ctx) : List Tok := if ctx = .pipe then [([], ['|']), ([], ['q'])] else []

def stage (ts : List Tok) : Command := { tokens := ts, redirectsTo := [], redirectFrom := none }

theorem planOfTokens_G (p : Str) (qs : List Tok) (ctx : Ctx) (hp : ∀ c ∈ p, c ≠ '=') (hpa : ArgTok' ([], p))
    (hq : ∀ t ∈ qs, ArgTok' t) (hlast : ctx ≠ .pipe → qs.getLast? ≠ some ([], ['&'])) :
    planOfTokens (([], p) :: qs ++ pipeToks ctx) =
      .ok { commands := stage (([], p) :: qs) :: (if ctx = .pipe then [stage [([], ['q'])]] else []),
            envs := [], background := false } := by
  have hall : ∀ t ∈ ([], p) :: qs, ArgTok' t := by
    intro t ht; simp at ht; rcases ht with rfl | ht
    · exact hpa
    · exact hq t ht
  have hnp : ∀ t ∈ ([], p) :: qs, ¬ (t.1 = [] ∧ t.2 = ['|']) := by
    intro t ht ⟨h1, h2⟩
    rcases hall t ht with h3 | ⟨h3, _⟩
    · exact h3 h1
    · exact h3 h2
  have hdrain : ∀ tl, drainEnvTokens (([], p) :: qs ++ tl) = ([], ([], p) :: qs ++ tl) := by
    intro tl
    simp [drainEnvTokens, reEnvAssign_none p hp]
  by_cases hc : ctx = .pipe
  · subst hc
    have hbg : ¬ ((([], p) :: qs ++ pipeToks .pipe).length > 1 ∧
        (([], p) :: qs ++ pipeToks .pipe).getLast? = some ([], ['&'])) := by
      intro ⟨_, h2⟩
      have e : ([], p) :: qs ++ pipeToks .pipe = (([], p) :: qs ++ [([], ['|'])]) ++ [([], ['q'])] := by
        simp [pipeToks]
      rw [e, List.getLast?_append] at h2
      simp at h2
    have hqa : ∀ t ∈ [(([] : Str), ['q'])], ArgTok' t := by
      intro t ht; simp at ht; subst ht
      exact Or.inr ⟨by decide, by decide, by decide⟩
    unfold planOfTokens
    rw [hdrain]
    simp only
    rw [if_neg hbg]
    have hs : splitByPipes (([], p) :: qs ++ pipeToks .pipe) = [([], p) :: qs, [([], ['q'])]] := by
      simp only [splitByPipes]
      rw [splitByPipesGo_append _ _ _ _ hnp]
      simp [pipeToks, splitByPipesGo]
    rw [hs]
    simp [fromTokensAll, fromTokens_args _ (by simp) hall, fromTokens_args _ (by simp) hqa, stage]
  · have e0 : pipeToks ctx = [] := by simp [pipeToks, hc]
    have hbg : ¬ ((([], p) :: qs).length > 1 ∧ (([], p) :: qs).getLast? = some ([], ['&'])) := by
      intro ⟨h1, h2⟩
      cases qs with
      | nil => simp at h1
      | cons y ys =>
        rw [List.getLast?_cons_cons] at h2
        exact hlast hc h2
    have hd := hdrain []
    simp only [List.append_nil] at hd
    rw [e0, List.append_nil]
    unfold planOfTokens
    rw [hd]
    simp only
    rw [if_neg hbg]
    simp only [splitByPipes, splitByPipesGo_noPipe _ [] [] hnp]
    simp [fromTokensAll, fromTokens_args _ (by simp) hall, stage, hc]

end Cicada.C01

namespace Cicada.PassLemmas
open Cicada Cicada.TokLemmas Cicada.C01

theorem inert_quiet (t : Tok) (h : Inert t) : Quiet t :=
  h.elim Or.inl fun ⟨h1, h2⟩ => Or.inr ⟨fun c hc => h2 c hc, Or.inl h1⟩

theorem doExpansion_id (se : SubstEnv) (p : Str) (qs : List Tok) (f : Nat)
    (hw : p.all wordChar = true) (hl : p.any isAlphaA = true) (hq : ∀ t ∈ qs, Inert t)
    (ha : lookup se.env.aliases p = none) (hx : p ≠ "xargs".toList) (hf : qs.length + 2 < f) :
    doExpansion se f (([], p) :: qs) = .ok (([], p) :: qs) :=
  doExpansion_quiet se p qs f hw hl (fun t ht => inert_quiet t (hq t ht)) ha hx
    (expandAliasGo_false_inert _ qs fun t ht => inert_sep_ne t (hq t ht)) hf

theorem ArgTok.argTok' {t : Tok} (h : ArgTok t) : ArgTok' t :=
  h.elim Or.inl fun ⟨h1, h2, _, h4⟩ => Or.inr ⟨h1, h2, h4⟩

theorem planOfTokens_args (p : Str) (qs : List Tok) (hp : ∀ c ∈ p, c ≠ '=') (hpa : ArgTok ([], p))
    (hq : ∀ t ∈ qs, ArgTok t) (hlast : (([], p) :: qs).length > 1 → (([], p) :: qs).getLast? ≠ some ([], ['&'])) :
    planOfTokens (([], p) :: qs) =
      .ok { commands := [{ tokens := ([], p) :: qs, redirectsTo := [], redirectFrom := none }], envs := [], background := false } := by
  have := planOfTokens_G p qs .alone hp hpa.argTok' (fun t ht => (hq t ht).argTok') fun _ h => by
    cases qs with
    | nil => simp at h
    | cons y ys => exact hlast (by simp) (by rw [List.getLast?_cons_cons]; exact h)
  simpa [pipeToks, stage] using this

theorem plan_args (p : Str) (qs : List Tok) (hw : p.all wordChar = true) (hq : ∀ t ∈ qs, ArgTok t) :
    planOfTokens (([], p) :: qs) =
      .ok { commands := [{ tokens := ([], p) :: qs, redirectsTo := [], redirectFrom := none }],
            envs := [], background := false } := by
  have := planOfTokens_G p qs .alone (word_no p hw '=' (by decide)) (word_argTok' p hw) (fun t ht => (hq t ht).argTok') fun _ e =>
    (hq _ (List.mem_of_getLast? e)).elim (fun h => h rfl) (fun h => h.2.2.1 rfl)
  simpa [pipeToks, stage] using this

end Cicada.PassLemmas
