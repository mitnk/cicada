import Cicada.Basic
/-!
Facts about the string functions of `Basic.lean` that several properties use.
-/
namespace Cicada

theorem startsWith_append (p x : Str) : startsWith (p ++ x) p = true := by
  induction p with
  | nil => cases x <;> rfl
  | cons a p ih => simp [startsWith, ih]

theorem startsWith_eq {s p : Str} (h : startsWith s p = true) : s = p ++ s.drop p.length := by
  fun_induction startsWith s p with
  | case1 => rfl
  | case2 => cases h
  | case3 c cs p ps ih =>
    simp only [Bool.and_eq_true, decide_eq_true_eq] at h
    rw [List.length_cons, List.drop_succ_cons, List.cons_append, ← ih h.2, h.1]

theorem trimL_cons_of_not {c : Char} {x : Str} (h : isWs c = false) : trimL (c :: x) = c :: x := by
  simp [trimL, h]

theorem trimR_snoc (ys : Str) (d : Char) (hd : isWs d = false) : trimR (ys ++ [d]) = ys ++ [d] := by
  simp [trimR, trimL, hd]

/-- `trim` on a text that begins and ends with a non-blank character (given both by its head and by its last
character, as `trimL` and `trimR` look at it) -/
theorem trim_id (c d : Char) (cs ys : Str) (e : c :: cs = ys ++ [d]) (hc : isWs c = false) (hd : isWs d = false) :
    trim (c :: cs) = c :: cs := by
  simp only [trim, trimL_cons_of_not hc]
  rw [e]; exact trimR_snoc ys d hd

/-- … and one blank character behind it is trimmed away -/
theorem trim_snoc_ws (c d w : Char) (cs ys : Str) (e : c :: cs = ys ++ [d]) (hc : isWs c = false) (hd : isWs d = false)
    (hw : isWs w = true) : trim (c :: cs ++ [w]) = c :: cs := by
  have h1 : trimL (c :: cs ++ [w]) = c :: cs ++ [w] := by simp [trimL, hc]
  simp only [trim, h1]
  rw [e]
  have : trimR (ys ++ [d] ++ [w]) = trimR (ys ++ [d]) := by simp [trimR, trimL, hw]
  rw [this]; exact trimR_snoc ys d hd

theorem trimL_append_ne (a : Str) {c : Char} (b : Str) (h : isWs c = false) : trimL (a ++ c :: b) ≠ [] := by
  induction a with
  | nil => simp [trimL, h]
  | cons d a ih =>
    by_cases hd : isWs d = true
    · simpa [trimL, hd] using ih
    · simp [trimL, hd]

theorem trimL_vis (x : Str) : trimL x = [] ∨ ∃ d y, trimL x = d :: y ∧ isWs d = false := by
  induction x with
  | nil => exact Or.inl rfl
  | cons a x ih =>
    by_cases ha : isWs a = true
    · simpa [trimL, ha] using ih
    · exact Or.inr ⟨a, x, by simp [trimL, ha], by simpa using ha⟩

theorem trim_ne_of_vis (w : Str) {c : Char} (x : Str) (hc : isWs c = false) : trim (w ++ c :: x) ≠ [] := by
  have h1 := trimL_append_ne w x hc
  rcases trimL_vis (w ++ c :: x) with h | ⟨d, y, h, hd⟩
  · exact absurd h h1
  · simp only [trim, h, trimR]
    intro hh
    have : trimL (y.reverse ++ d :: []) = [] := by simpa using hh
    exact trimL_append_ne _ _ hd this

theorem joinWith_any_head (sep x : Str) (rest : List Str) (f : Char → Bool) (h : x.any f = true) :
    (joinWith sep (x :: rest)).any f = true := by
  cases rest with
  | nil => simpa [joinWith] using h
  | cons y ys => simp [joinWith, List.any_append, h]

theorem joinWith_blank (w : Str) (as : List Str) :
    joinWith [' '] (w :: as) = w ++ (as.map (fun a => ' ' :: a)).flatten := by
  induction as generalizing w with
  | nil => simp [joinWith]
  | cons a as ih => simp [joinWith, ih a]

theorem splitOnChar_ne_nil (d : Char) (s : Str) : splitOnChar d s ≠ [] := by
  cases s with
  | nil => exact List.cons_ne_nil _ _
  | cons c cs =>
    simp only [splitOnChar]
    split
    · exact List.cons_ne_nil _ _
    · split <;> exact List.cons_ne_nil _ _

/-- the second equation of `splitOnChar` without its unreachable branch -/
theorem splitOnChar_cons (d c : Char) (cs : Str) : ∃ p ps, splitOnChar d cs = p :: ps ∧
    splitOnChar d (c :: cs) = if c = d then [] :: p :: ps else (c :: p) :: ps := by
  cases h : splitOnChar d cs with
  | nil => exact absurd h (splitOnChar_ne_nil d cs)
  | cons p ps => exact ⟨p, ps, rfl, by simp only [splitOnChar, h]⟩

theorem splitOnChar_of_forall_ne (d : Char) (s : Str) (h : ∀ c ∈ s, c ≠ d) : splitOnChar d s = [s] := by
  induction s with
  | nil => rfl
  | cons x xs ih =>
    have hx : x ≠ d := h x List.mem_cons_self
    simp only [splitOnChar, ih (fun c hc => h c (List.mem_cons_of_mem _ hc)), hx, if_false]

theorem splitOnChar_line (d : Char) (x : Str) (hx : ∀ c ∈ x, c ≠ d) (rest : Str) :
    splitOnChar d (x ++ d :: rest) = x :: splitOnChar d rest := by
  induction x with
  | nil =>
    obtain ⟨p, ps, h, e⟩ := splitOnChar_cons d d rest
    rw [List.nil_append, e, h, if_pos rfl]
  | cons c cs ih =>
    have hc : c ≠ d := hx c List.mem_cons_self
    simp only [List.cons_append, splitOnChar, ih (fun y hy => hx y (List.mem_cons_of_mem _ hy)), hc, if_false]

theorem joinWith_splitOnChar (d : Char) (s : Str) : joinWith [d] (splitOnChar d s) = s := by
  induction s with
  | nil => rfl
  | cons x xs ih =>
    obtain ⟨p, ps, h, e⟩ := splitOnChar_cons d x xs
    rw [h] at ih
    rw [e]
    split
    · rename_i hx
      simp only [hx, joinWith, ih, List.nil_append, List.singleton_append]
    · cases ps with
      | nil => simpa only [joinWith, List.cons.injEq, true_and] using ih
      | cons y ys => simpa only [joinWith, List.cons_append, List.cons.injEq, true_and] using ih

theorem splitOnChar_joinWith (d : Char) (ls : List Str) (hne : ls ≠ []) (h : ∀ x ∈ ls, ∀ c ∈ x, c ≠ d) :
    splitOnChar d (joinWith [d] ls) = ls := by
  induction ls with
  | nil => exact absurd rfl hne
  | cons x rest ih =>
    cases rest with
    | nil => simpa [joinWith] using splitOnChar_of_forall_ne d x (h x (by simp))
    | cons y ys =>
      simp only [joinWith, List.append_assoc, List.cons_append, List.nil_append]
      rw [splitOnChar_line d x (h x (by simp)), ih (by simp) (fun z hz => h z (by simp [hz]))]

end Cicada
