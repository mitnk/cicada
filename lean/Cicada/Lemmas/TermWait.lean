import Cicada.Lemmas.TermReport
/-!
# What a pending status change says about its process, and the counter of `wait_fg_job`

`NoteOk`: the status change the kernel holds for a child describes the child's present state (a later change replaces
an unreported one).  `WaitInv`: inside `wait_fg_job` the counter is below the number of processes waited for: the loop
leaves `.waiting` when it reaches it, and a `continued`, which skips that test, does not count.
-/
namespace Cicada.Term
open Cicada.Jobs Cicada.C07

def NoteOk (p : Proc) : Prop :=
  ∀ e, p.note = some e → e.pid = p.pid ∧
    (match e with
     | .stopped _ _ => p.st = .stopped
     | .exited _ _ => p.st = .zombie
     | .killed _ _ => p.st = .zombie
     | .continued _ => p.st = .running)

structure WaitInv (s : State) : Prop where
  notes : ∀ p ∈ s.procs, NoteOk p
  counter : ∀ w, s.mode = .waiting w → w.waited < w.pids.length

theorem noteOk_congr {p q : Proc} (h : NoteOk p) (h1 : q.pid = p.pid) (h2 : q.st = p.st) (h3 : q.note = p.note) : NoteOk q := by
  intro e he
  rw [h3] at he
  have := h e he
  rw [h1, h2]
  exact this

theorem noteOk_of_note {q : Proc} {e : Ev} (hn : q.note = some e) (hp : e.pid = q.pid)
    (hs : match (motive := Ev → Prop) e with
      | .stopped _ _ => q.st = .stopped
      | .exited _ _ => q.st = .zombie
      | .killed _ _ => q.st = .zombie
      | .continued _ => q.st = .running) : NoteOk q := by
  intro e' he'
  rw [hn] at he'; cases he'
  exact ⟨hp, hs⟩

theorem sigProc_noteOk (p : Proc) (sg : Sig) (h : NoteOk p) : NoteOk (sigProc p sg) := by
  unfold sigProc
  cases hst : p.st with
  | running =>
    cases sg with
    | int | kill | tstp | stop => exact noteOk_of_note rfl rfl rfl
    | cont => exact h
  | stopped =>
    cases sg with
    | kill => exact noteOk_of_note rfl rfl rfl
    | int => exact noteOk_congr h rfl hst.symm rfl
    | cont => dsimp only; split <;> exact noteOk_of_note rfl rfl rfl
    | tstp | stop => exact h
  | zombie | reaped => exact h

theorem consume_noteOk (p : Proc) : NoteOk (consume p) := by
  intro e he; simp [consume] at he

theorem noteOk_map {l : List Proc} {f : Proc → Proc} (hf : ∀ q, NoteOk q → NoteOk (f q)) (h : ∀ p ∈ l, NoteOk p) :
    ∀ p ∈ l.map f, NoteOk p := by
  intro p hp
  rw [List.mem_map] at hp
  obtain ⟨q, hq, rfl⟩ := hp
  exact hf q (h q hq)

theorem noteOk_ite {f : Proc → Proc} (hf : ∀ q, NoteOk q → NoteOk (f q)) (P : Proc → Prop) [DecidablePred P] :
    ∀ q, NoteOk q → NoteOk (if P q then f q else q) := by
  intro q hq
  by_cases h : P q <;> simp [h, hq, hf q hq]

theorem waitInv_procs {s s' : State} (h : WaitInv s) (hp : ∀ p ∈ s'.procs, NoteOk p) (hm : s'.mode = s.mode) : WaitInv s' :=
  ⟨hp, by rw [hm]; exact h.counter⟩

theorem waitInv_nowait {s' : State} (hp : ∀ p ∈ s'.procs, NoteOk p) (hm : ∀ w, s'.mode ≠ .waiting w) : WaitInv s' :=
  ⟨hp, fun w hw => absurd hw (hm w)⟩

theorem pollR_notes (r : Bool) (s : State) (h : ∀ p ∈ s.procs, NoteOk p) : ∀ p ∈ (pollR r s).procs, NoteOk p := by
  unfold pollR
  split
  · exact h
  · exact noteOk_map (fun q _ => consume_noteOk q) h

theorem waitEv_again {s : Sh} {w : Wait} {e : Ev} (h : (waitEv s w e).2.2.2 = true) : (waitEv s w e).2.2.1 = w.waited := by
  cases e with
  | continued p => rfl
  | exited p x | killed p x | stopped p x => simp only [waitEv] at h; split at h <;> cases h

theorem waitEv_counted {s : Sh} {w : Wait} {e : Ev} (h : (waitEv s w e).2.2.1 ≠ w.waited) :
    w.pids.contains e.pid = true ∧ ∀ x, e ≠ .continued x := by
  cases e with
  | continued p => exact absurd rfl h
  | exited p x | killed p x | stopped p x =>
    refine ⟨Decidable.by_contra fun hc => h ?_, by intro y hy; cases hy⟩
    simp only [waitEv, hc]
    rfl

theorem sigGroup_notes {procs : List Proc} (g : Pid) (sg : Sig) (h : ∀ p ∈ procs, NoteOk p) : ∀ p ∈ sigGroup procs g sg, NoteOk p := by
  rw [sigGroup_eq]
  exact noteOk_map (noteOk_ite (fun q hq => sigProc_noteOk q sg hq) _) h

theorem updProc_notes {procs : List Proc} (pid : Pid) {f : Proc → Proc} (hf : ∀ q, q.pid = pid → NoteOk q → NoteOk (f q))
    (h : ∀ p ∈ procs, NoteOk p) : ∀ p ∈ updProc procs pid f, NoteOk p := by
  intro p hp
  rw [updProc_eq, List.mem_map] at hp
  obtain ⟨q, hq, rfl⟩ := hp
  split
  · rename_i hqp; exact hf q hqp (h q hq)
  · exact h q hq

theorem waitInv_step {c : Cfg} {s s' : State} {a : Act} (h : WaitInv s) (hs : Step c s a s') : WaitInv s' := by
  cases hs with
  | launch | fgMsg | fgNoTty | bgMsg | jobsNone | empty | giveOk | giveFail | giveSkip | insert | launchedBg | launchedNone
  | waitEchild | handbackLaunch | handbackFg =>
    exact waitInv_nowait h.notes (by simp)
  | fgDone | bgRunning | bgResumed => exact waitInv_nowait (sigGroup_notes _ _ h.notes) (by simp)
  | fgWait hm j hne =>
    refine ⟨sigGroup_notes _ _ h.notes, ?_⟩
    intro w hw
    simp only [Mode.waiting.injEq] at hw; subst hw
    exact List.length_pos_iff.mpr (by simpa using hne)
  | jobsList | poll => exact waitInv_nowait (pollR_notes _ s h.notes) (by simp)
  | fork =>
    refine waitInv_nowait ?_ (by simp)
    intro p hp
    simp only [List.mem_append, List.mem_singleton] at hp
    rcases hp with hp | rfl
    · exact h.notes p hp
    · intro e he; simp at he
  | pset =>
    refine waitInv_nowait (updProc_notes _ ?_ h.notes) (by simp)
    intro q _ hq
    split
    · exact noteOk_congr hq rfl rfl rfl
    · exact hq
  | launchedWait l hm hph hcm hb hne =>
    refine ⟨h.notes, ?_⟩
    intro w hw
    simp only [Mode.waiting.injEq] at hw; subst hw
    exact List.length_pos_iff.mpr (by simpa using hne)
  | csetpgid =>
    refine waitInv_procs h (updProc_notes _ ?_ h.notes) rfl
    intro q _ hq
    split <;> exact noteOk_congr hq rfl rfl rfl
  | @exit pid code =>
    refine waitInv_procs h (updProc_notes _ ?_ h.notes) rfl
    intro q hqp _ e he
    simp only [Option.some.injEq] at he; subst he
    exact ⟨hqp.symm, rfl⟩
  | signal => exact waitInv_procs h (updProc_notes _ (fun q _ hq => sigProc_noteOk q _ hq) h.notes) rfl
  | ctrlC | ctrlZ => exact waitInv_procs h (sigGroup_notes _ _ h.notes) rfl
  | waitGet w p e hm =>
    have hlt := h.counter w hm
    refine ⟨updProc_notes _ (fun q _ _ => consume_noteOk q) h.notes, ?_⟩
    intro w' hw'
    dsimp only at hw'
    split at hw'
    · simp at hw'
    · rename_i hcond
      simp only [Mode.waiting.injEq] at hw'; subst hw'
      dsimp only
      simp only [Bool.and_eq_true, Bool.not_eq_true', decide_eq_true_eq, not_and, Nat.not_le] at hcond
      by_cases hc : (waitEv s.sh w e).2.2.2 = false
      · exact hcond hc
      · rw [waitEv_again (by simpa using hc)]; exact hlt

theorem waitInv_reachable {c : Cfg} {s : State} (h : Reachable c s) : WaitInv s := by
  induction h with
  | init p _ => exact ⟨by simp [init], by intro w hw; simp [init] at hw⟩
  | step a _ hs ih => exact waitInv_step ih (step_sound hs)

end Cicada.Term
