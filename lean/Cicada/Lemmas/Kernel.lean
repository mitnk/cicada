import Cicada.Model.Pipeline
/-!
# The descriptor world pointwise, and `Restores`: the invariant under which the parent's side of `run_pipeline` gives the shell's table back
-/
namespace Cicada.Kernel
open Table

@[simp] theorem close_apply (t : Table) (fd x : Nat) : (t.close fd) x = if x = fd then none else t x := rfl
@[simp] theorem set_apply (t : Table) (fd : Nat) (e : Ent) (x : Nat) : (t.set fd e) x = if x = fd then some e else t x := rfl

theorem dup2_apply (t : Table) (src dst x : Nat) :
    (t.dup2 src dst) x = match t src with
      | none => t x
      | some e => if src = dst then t x else if x = dst then some { e with cx := false } else t x := by
  unfold Table.dup2
  cases h : t src with
  | none => rfl
  | some e => by_cases hsd : src = dst <;> simp [hsd, Table.set]

theorem dup2_other (t : Table) (src dst x : Nat) (h : x ≠ dst) : (t.dup2 src dst) x = t x := by
  rw [dup2_apply]
  cases t src with
  | none => rfl
  | some e => by_cases hsd : src = dst <;> simp [hsd, h]

theorem dup2_of_some {t : Table} {src dst : Nat} {e : Ent} (h : t src = some e) (hne : src ≠ dst) (x : Nat) :
    (t.dup2 src dst) x = if x = dst then some { e with cx := false } else t x := by
  rw [dup2_apply, h]
  exact if_neg hne

theorem set_dup2_apply (t : Table) {fd dst : Nat} (e : Ent) (hne : fd ≠ dst) {x : Nat} (hx : x ≠ fd) :
    ((t.set fd e).dup2 fd dst) x = if x = dst then some { e with cx := false } else t x := by
  rw [dup2_of_some (if_pos rfl) hne, set_apply, if_neg hx]

theorem dup2_cases (t : Table) (src dst : Nat) :
    t.dup2 src dst = t ∨ ∃ e : Ent, ∀ x, (t.dup2 src dst) x = if x = dst then some { e with cx := false } else t x := by
  cases hs : t src with
  | none => exact Or.inl (by unfold Table.dup2; rw [hs])
  | some e =>
    by_cases h : src = dst
    · exact Or.inl (by unfold Table.dup2; rw [hs]; exact if_pos h)
    · exact Or.inr ⟨e, dup2_of_some hs h⟩

theorem lowestFree_spec {t : Table} {lim fd : Nat} (h : t.lowestFree lim = some fd) : t fd = none ∧ fd < lim := by
  unfold Table.lowestFree at h
  have h1 := List.find?_some h
  have h2 := List.mem_of_find?_eq_some h
  simp only [List.mem_range] at h2
  cases hfd : t fd with
  | none => exact ⟨rfl, h2⟩
  | some e => simp [hfd] at h1

theorem alloc_spec {t t' : Table} {lim fd : Nat} {e : Ent} (h : t.alloc lim e = some (t', fd)) :
    t fd = none ∧ t' = t.set fd e := by
  unfold Table.alloc at h
  cases hl : t.lowestFree lim with
  | none => simp [hl] at h
  | some f =>
    simp only [hl, Option.some.injEq, Prod.mk.injEq] at h
    obtain ⟨h1, h2⟩ := h
    subst h2
    exact ⟨(lowestFree_spec hl).1, h1.symm⟩

theorem alloc_ge3 {t t' : Table} {lim fd : Nat} {e : Ent} (h0 : (t 0).isSome) (h1 : (t 1).isSome) (h2 : (t 2).isSome)
    (ha : t.alloc lim e = some (t', fd)) : 3 ≤ fd := by
  have hf := (alloc_spec ha).1
  rcases Nat.lt_or_ge fd 3 with hlt | hge
  · have : fd = 0 ∨ fd = 1 ∨ fd = 2 := by omega
    rcases this with rfl | rfl | rfl <;> simp [hf] at h0 h1 h2
  · exact hge

theorem close_set_free {t : Table} {fd : Nat} (e : Ent) (h : t fd = none) : (t.set fd e).close fd = t := by
  funext x
  by_cases hx : x = fd
  · subst hx; simp [h]
  · simp [hx]

theorem pipe_allocs {t t2 : Table} {lim k r w : Nat} (h : t.pipe lim k = some (t2, r, w)) :
    ∃ t1, t.alloc lim { obj := .pipeR k } = some (t1, r) ∧ t1.alloc lim { obj := .pipeW k } = some (t2, w) := by
  unfold Table.pipe at h
  cases h1 : t.alloc lim { obj := .pipeR k } with
  | none => simp [h1] at h
  | some p1 =>
    obtain ⟨t1, r1⟩ := p1
    simp only [h1] at h
    cases h2 : t1.alloc lim { obj := .pipeW k } with
    | none => simp [h2] at h
    | some p2 =>
      obtain ⟨t2', w2⟩ := p2
      simp only [h2, Option.some.injEq, Prod.mk.injEq] at h
      obtain ⟨rfl, rfl, rfl⟩ := h
      exact ⟨t1, rfl, h2⟩

theorem pipe_spec {t t2 : Table} {lim k r w : Nat} (h : t.pipe lim k = some (t2, r, w)) :
    t r = none ∧ t w = none ∧ r ≠ w ∧ t2 = (t.set r { obj := .pipeR k }).set w { obj := .pipeW k } := by
  obtain ⟨t1, h1, h2⟩ := pipe_allocs h
  obtain ⟨a1, rfl⟩ := alloc_spec h1
  obtain ⟨b1, b2⟩ := alloc_spec h2
  have hne : r ≠ w := by
    intro heq
    subst heq
    simp at b1
  refine ⟨a1, ?_, hne, b2⟩
  have : (t.set r { obj := .pipeR k }) w = t w := by simp [Ne.symm hne]
  rw [← this]; exact b1

end Cicada.Kernel

namespace Cicada.Pipeline
open Cicada.Kernel Cicada.Kernel.Table

theorem closePair_apply (t : Table) (p : Fds) (x : Nat) : (closePair t p) x = if x = p.1 ∨ x = p.2 then none else t x := by
  unfold closePair
  by_cases h1 : x = p.1 <;> by_cases h2 : x = p.2 <;> simp [h1, h2]

/-- the descriptors of a list of pipes -/
def fdsOf (ps : List Fds) : List Nat := ps.flatMap (fun p => [p.1, p.2])

theorem mem_fdsOf {ps : List Fds} {x : Nat} : x ∈ fdsOf ps ↔ ∃ p ∈ ps, x = p.1 ∨ x = p.2 := by
  simp [fdsOf, List.mem_flatMap]

def capFds : Cap → List Nat
  | (a, b) => (match a with | some p => [p.1, p.2] | none => []) ++ (match b with | some p => [p.1, p.2] | none => [])

def optFds : Option Fds → List Nat
  | some p => [p.1, p.2]
  | none => []

theorem capFds_eq (a b : Option Fds) : capFds (a, b) = optFds a ++ optFds b := by
  cases a <;> cases b <;> rfl

theorem closeOpt_apply (t : Table) (o : Option Fds) (x : Nat) :
    (closeOpt t o) x = if x ∈ optFds o then none else t x := by
  cases o with
  | none => simp [closeOpt, optFds]
  | some p => simp [closeOpt, optFds, closePair_apply]

theorem closeCap_apply (t : Table) (cap : Cap) (x : Nat) :
    (closeOpt (closeOpt t cap.1) cap.2) x = if x ∈ capFds cap then none else t x := by
  obtain ⟨a, b⟩ := cap
  rw [closeOpt_apply, closeOpt_apply, capFds_eq]
  simp only [List.mem_append]
  by_cases h1 : x ∈ optFds a <;> by_cases h2 : x ∈ optFds b <;> simp [h1, h2]

/-- `t` agrees with `t0` outside the descriptors in `O`, and every descriptor in `O` is free in `t0`:
closing everything in `O` gives `t0` back -/
def Restores (t0 t : Table) (O : List Nat) : Prop := (∀ x, x ∉ O → t x = t0 x) ∧ (∀ x ∈ O, t0 x = none)

theorem restores_refl (t0 : Table) : Restores t0 t0 [] := ⟨fun _ _ => rfl, fun _ h => by simp at h⟩

theorem restores_nil {t0 t : Table} (h : Restores t0 t []) : t = t0 := by
  funext x; exact h.1 x (by simp)

theorem restores_shrink {t0 t t' : Table} {O O' : List Nat} (h : Restores t0 t O)
    (hsub : ∀ x ∈ O', x ∈ O) (hclosed : ∀ x ∈ O, x ∉ O' → t' x = none) (hsame : ∀ x, x ∉ O → t' x = t x) :
    Restores t0 t' O' := by
  refine ⟨?_, fun x hx => h.2 x (hsub x hx)⟩
  intro x hx
  by_cases hO : x ∈ O
  · rw [hclosed x hO hx, h.2 x hO]
  · rw [hsame x hO, h.1 x hO]

theorem restores_congr {t0 t : Table} {O O' : List Nat} (h : Restores t0 t O) (hm : ∀ x, x ∈ O ↔ x ∈ O') : Restores t0 t O' :=
  ⟨fun x hx => h.1 x (fun hO => hx ((hm x).mp hO)), fun x hx => h.2 x ((hm x).mpr hx)⟩

theorem Restores.close {t0 t : Table} {c : Nat} {O : List Nat} (h : Restores t0 t (c :: O)) : Restores t0 (t.close c) O := by
  refine restores_shrink h (fun x hx => List.mem_cons_of_mem _ hx) ?_
    (fun x hx => if_neg (fun e : x = c => hx (e ▸ List.mem_cons_self)))
  intro x hx hn
  rcases List.mem_cons.mp hx with rfl | hx
  · exact if_pos rfl
  · exact absurd hx hn

/-! Any invariant `I t O` whose list may lose its head by a `close`. -/
section
variable {I : Table → List Nat → Prop} (hclose : ∀ {t : Table} {c : Nat} {O : List Nat}, I t (c :: O) → I (t.close c) O)
include hclose

theorem closePairs_head {O : List Nat} : ∀ (ps : List Fds) {t : Table}, I t (fdsOf ps ++ O) → I (ps.foldl closePair t) O
  | [], _, h => h
  | _ :: ps, _, h => closePairs_head ps (hclose (hclose h))

theorem closeCap_head {t : Table} {O : List Nat} (cap : Cap) (h : I t (capFds cap ++ O)) :
    I (closeOpt (closeOpt t cap.1) cap.2) O := by
  obtain ⟨a, b⟩ := cap
  cases a with
  | none =>
    cases b with
    | none => exact h
    | some q => exact hclose (hclose h)
  | some p =>
    cases b with
    | none => exact hclose (hclose h)
    | some q => exact hclose (hclose (hclose (hclose h)))

end

theorem restores_mono {t0 t : Table} {O O' : List Nat} (h : Restores t0 t O) (hsub : ∀ x ∈ O, x ∈ O')
    (hfree : ∀ x ∈ O', t0 x = none) : Restores t0 t O' :=
  ⟨fun x hx => h.1 x (fun hO => hx (hsub x hO)), hfree⟩

theorem restores_alloc {t0 t t' : Table} {O : List Nat} {lim fd : Nat} {e : Ent} (h : Restores t0 t O)
    (ha : t.alloc lim e = some (t', fd)) : Restores t0 t' (fd :: O) := by
  obtain ⟨hf, rfl⟩ := alloc_spec ha
  constructor
  · intro x hx
    simp only [List.mem_cons, not_or] at hx
    simp [hx.1, h.1 x hx.2]
  · intro x hx
    rcases List.mem_cons.mp hx with rfl | hO
    · by_cases hO : x ∈ O
      · exact h.2 x hO
      · rw [← h.1 x hO]; exact hf
    · exact h.2 x hO

theorem restores_pipe {t0 t t2 : Table} {O : List Nat} {lim k r w : Nat} (h : Restores t0 t O)
    (hp : t.pipe lim k = some (t2, r, w)) : Restores t0 t2 (O ++ [r, w]) := by
  obtain ⟨t1, h1, h2⟩ := pipe_allocs hp
  exact restores_congr (restores_alloc (restores_alloc h h1) h2) (fun x => by
    simp only [List.mem_cons, List.mem_append, List.not_mem_nil, or_false]; grind)

theorem closePair_pipe {t t2 : Table} {lim k r w : Nat} (h : t.pipe lim k = some (t2, r, w)) : closePair t2 (r, w) = t :=
  restores_nil (restores_pipe (restores_refl t) h).close.close

theorem fdsOf_append (a b : List Fds) : fdsOf (a ++ b) = fdsOf a ++ fdsOf b := by simp [fdsOf]

theorem mkPipes_induct (lim : Nat) {P : Table → List Fds → Prop}
    (step : ∀ {t t1 : Table} {np r w : Nat} {acc : List Fds}, P t acc → t.pipe lim np = some (t1, r, w) → P t1 (acc ++ [(r, w)])) :
    ∀ (n : Nat) (t : Table) (np : Nat) (acc : List Fds), P t acc →
      P (mkPipes lim n t np acc).1 (mkPipes lim n t np acc).2.2.1
  | 0, _, _, _, h => h
  | n + 1, t, np, acc, h => by
    unfold mkPipes
    cases hp : t.pipe lim np with
    | none => exact h
    | some q => exact mkPipes_induct lim step n _ _ _ (step h hp)

theorem mkPipes_restores (lim : Nat) (t0 : Table) : ∀ (n : Nat) (t : Table) (np : Nat) (acc : List Fds),
    Restores t0 t (fdsOf acc) →
    Restores t0 (mkPipes lim n t np acc).1 (fdsOf (mkPipes lim n t np acc).2.2.1) :=
  mkPipes_induct lim (P := fun t acc => Restores t0 t (fdsOf acc)) (fun h hp => by rw [fdsOf_append]; exact restores_pipe h hp)

theorem mkPipes_length (lim : Nat) : ∀ (n : Nat) (t : Table) (np : Nat) (acc : List Fds),
    (mkPipes lim n t np acc).2.2.2 = true → (mkPipes lim n t np acc).2.2.1.length = acc.length + n := by
  intro n
  induction n with
  | zero => intro t np acc _; simp [mkPipes]
  | succ n ih =>
    intro t np acc h
    unfold mkPipes at h ⊢
    cases hp : t.pipe lim np with
    | none => simp [hp] at h
    | some q =>
      obtain ⟨t1, r, w⟩ := q
      simp only [hp] at h ⊢
      rw [ih _ _ _ h]; simp; omega

theorem release_restores {t0 t : Table} {ps : List Fds} (h : Restores t0 t (fdsOf ps)) : releasePipes t ps = t0 :=
  restores_nil (closePairs_head Restores.close ps (by rw [List.append_nil]; exact h))

def prevFds : Option Fds → List Nat
  | some p => [p.1]
  | none => []

/-- the local `release` of `parentStage` (Model/Pipeline.lean) -/
def release (prev cur : Option Fds) (cap : Cap) (t : Table) : Table :=
  let t := match cur with | some p => t.close p.2 | none => t
  let t := match prev with | some p => t.close p.1 | none => t
  if cur.isNone then closeOpt (closeOpt t cap.1) cap.2 else t

/-- whatever happens to the stage (started, started with a here-string, not started because the here-string pipe
could not be created), the parent's table afterwards is the table before with the stage's ends released -/
theorem parentStage_shell (cfg : Cfg) (cmd : Command) (i : Nat) (prev cur : Option Fds) (right : List Fds) (cap : Cap)
    (capture bg : Bool) (s : PState) :
    (parentStage cfg cmd i prev cur right cap capture bg s).shell = release prev cur cap s.shell := by
  unfold parentStage release
  by_cases hh : cmd.isHere = true
  · simp only [hh, ↓reduceIte]
    cases hp : s.shell.pipe cfg.lim s.np with
    | none => rfl
    | some q =>
      obtain ⟨t1, r, w⟩ := q
      simp only [closePair_pipe hp]
      rfl
  · simp only [hh]
    rfl

theorem release_apply (prev cur : Option Fds) (cap : Cap) (t : Table) (x : Nat) :
    (release prev cur cap t) x =
      if (∃ p, cur = some p ∧ x = p.2) ∨ (∃ p, prev = some p ∧ x = p.1) ∨ (cur = none ∧ x ∈ capFds cap) then none else t x := by
  unfold release
  cases cur with
  | none =>
    simp only [Option.isNone_none, ↓reduceIte, closeCap_apply]
    cases prev with
    | none => simp
    | some p => by_cases h1 : x ∈ capFds cap <;> by_cases h2 : x = p.1 <;> simp [h1, h2]
  | some c =>
    cases prev with
    | none => by_cases h2 : x = c.2 <;> simp [h2]
    | some p => by_cases h1 : x = c.2 <;> by_cases h2 : x = p.1 <;> simp [h1, h2]

end Cicada.Pipeline
