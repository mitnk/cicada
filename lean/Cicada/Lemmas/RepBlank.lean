import Cicada.Lemmas.Interp
/-!
# Pair trees with blank-line pairs

A blank line of a script is a `CMD` pair whose text trims to nothing; `run_exp` skips every pair whose trimmed text is empty,
before it looks at the rule name.  `RStmtB` / `RBlockB` / `RArmsB` are `RStmt` / `RBlock` / `RArms` of `Lemmas/Interp.lean`
with one more constructor, `RBlockB.blank`, allowed where `B` holds (a layout with `k` blank lines uses `B := 0 < k`).
`RBlock` stands beside `RBlockB False` because the statements about the canonical text are made with it; `rBlockB_false` and
`rBlock_toB` go between the two.
-/
namespace Cicada.C14
open Cicada Cicada.Locust

mutual
inductive RStmtB (B : Prop) (args : List Str) : Stmt → PT → Prop
  | cmd {l text : Str} : trim text = l → PlainLine args l → RStmtB B args (.cmd l) (.node "CMD" text [])
  | brk {text : Str} : trim text = "break".toList → RStmtB B args .brk (.node "CMD" text [])
  | cont {text : Str} : trim text = "continue".toList → RStmtB B args .cont (.node "CMD" text [])
  | ite {arms : Arms} {els : Block} {text : Str} {brs : List PT} : trim text ≠ [] → RArmsB B args arms els brs →
      RStmtB B args (.ite arms els) (.node "EXP_IF" text brs)
  | «for» {v init : Str} {body : Block} {text t1 t2 vt tt t3 : Str} {kids : List PT} :
      trim text ≠ [] → trim vt = v → trim tt = init → RBlockB B args body kids →
      RStmtB B args (.for v init body)
        (.node "EXP_FOR" text [.node "FOR_HEAD" t1 [.node "FOR_INIT" t2 [.node "FOR_VAR" vt [], .node "TEST" tt []]], .node "EXP_BODY" t3 kids])
  | whl {t : Str} {body : Block} {text t1 tt t3 : Str} {kids : List PT} :
      trim text ≠ [] → trim tt = t → expandArgs args t = t → RBlockB B args body kids →
      RStmtB B args (.whl t body) (.node "EXP_WHILE" text [.node "WHILE_HEAD" t1 [.node "TEST" tt []], .node "EXP_BODY" t3 kids])
inductive RBlockB (B : Prop) (args : List Str) : Block → List PT → Prop
  | nil : RBlockB B args .nil []
  | cons {s : Stmt} {p : PT} {rest : Block} {ps : List PT} : RStmtB B args s p → RBlockB B args rest ps →
      RBlockB B args (.cons s rest) (p :: ps)
  /-- a pair with blank text in front of the pairs of `b` -/
  | blank {b : Block} {r : String} {text : Str} {kids ps : List PT} : B → trim text = [] → RBlockB B args b ps →
      RBlockB B args b (.node r text kids :: ps)
inductive RArmsB (B : Prop) (args : List Str) : Arms → Block → List PT → Prop
  | done : RArmsB B args .nil .nil []
  | els {els : Block} {t1 t2 t3 : Str} {kids : List PT} : RBlockB B args els kids →
      RArmsB B args .nil els [.node "IF_ELSE_BR" t1 [.node "KW_ELSE" t2 [], .node "EXP_BODY" t3 kids]]
  | arm {t : Str} {body : Block} {rest : Arms} {els : Block} {r hr : String} {x y tt z : Str} {kids brs : List PT} :
      (hr = "IF_HEAD" ∨ hr = "IF_ELSEIF_HEAD") → trim tt = t → expandArgs args t = t → RBlockB B args body kids →
      RArmsB B args rest els brs →
      RArmsB B args (.cons t body rest) els (.node r x [.node hr y [.node "TEST" tt []], .node "EXP_BODY" z kids] :: brs)
end

/-! Each conversion is stated for blocks, with the recursor; a statement is the block that consists of it, a list of arms
the `if` statement that consists of them. -/

theorem rBlock_toB {B : Prop} {args : List Str} : ∀ {b : Block} {ps : List PT}, RBlock args b ps → RBlockB B args b ps :=
  fun h => RBlock.rec (motive_1 := fun s p _ => RStmtB B args s p) (motive_2 := fun b ps _ => RBlockB B args b ps)
    (motive_3 := fun a els brs _ => RArmsB B args a els brs)
    (fun h1 h2 => .cmd h1 h2) (fun h => .brk h) (fun h => .cont h) (fun h _ ha => .ite h ha)
    (fun h1 h2 h3 _ hb => .for h1 h2 h3 hb) (fun h1 h2 h3 _ hb => .whl h1 h2 h3 hb)
    .nil (fun _ _ hs hr => .cons hs hr)
    .done (fun _ hb => .els hb) (fun h1 h2 h3 _ _ hb hr => .arm h1 h2 h3 hb hr) h

theorem rStmt_toB {B : Prop} {args : List Str} : ∀ {s : Stmt} {p : PT}, RStmt args s p → RStmtB B args s p :=
  fun h => match rBlock_toB (B := B) (.cons h .nil) with
    | .cons hs _ => hs
    | .blank _ _ hr => nomatch hr

theorem rArms_toB {B : Prop} {args : List Str} : ∀ {a : Arms} {els : Block} {brs : List PT}, RArms args a els brs → RArmsB B args a els brs :=
  fun h => match rStmt_toB (B := B) (.ite (text := ['x']) (by decide) h) with
    | .ite _ ha => ha

theorem rBlockB_false {args : List Str} : ∀ {b : Block} {ps : List PT}, RBlockB False args b ps → RBlock args b ps :=
  fun h => RBlockB.rec (motive_1 := fun s p _ => RStmt args s p) (motive_2 := fun b ps _ => RBlock args b ps)
    (motive_3 := fun a els brs _ => RArms args a els brs)
    (fun h1 h2 => .cmd h1 h2) (fun h => .brk h) (fun h => .cont h) (fun h _ ha => .ite h ha)
    (fun h1 h2 h3 _ hb => .for h1 h2 h3 hb) (fun h1 h2 h3 _ hb => .whl h1 h2 h3 hb)
    .nil (fun _ _ hs hr => .cons hs hr) (fun hB _ _ _ => hB.elim)
    .done (fun _ hb => .els hb) (fun h1 h2 h3 _ _ hb hr => .arm h1 h2 h3 hb hr) h

theorem rStmtB_false {args : List Str} : ∀ {s : Stmt} {p : PT}, RStmtB False args s p → RStmt args s p :=
  fun h => match rBlockB_false (.cons h .nil) with
    | .cons hs _ => hs

theorem rArmsB_false {args : List Str} : ∀ {a : Arms} {els : Block} {brs : List PT}, RArmsB False args a els brs → RArms args a els brs :=
  fun h => match rStmtB_false (.ite (text := ['x']) (by decide) h) with
    | .ite _ ha => ha

theorem rBlockB_mono {B B' : Prop} {args : List Str} (hBB : B → B') : ∀ {b : Block} {ps : List PT}, RBlockB B args b ps → RBlockB B' args b ps :=
  fun h => RBlockB.rec (motive_1 := fun s p _ => RStmtB B' args s p) (motive_2 := fun b ps _ => RBlockB B' args b ps)
    (motive_3 := fun a els brs _ => RArmsB B' args a els brs)
    (fun h1 h2 => .cmd h1 h2) (fun h => .brk h) (fun h => .cont h) (fun h _ ha => .ite h ha)
    (fun h1 h2 h3 _ hb => .for h1 h2 h3 hb) (fun h1 h2 h3 _ hb => .whl h1 h2 h3 hb)
    .nil (fun _ _ hs hr => .cons hs hr) (fun hB htx _ hr => .blank (hBB hB) htx hr)
    .done (fun _ hb => .els hb) (fun h1 h2 h3 _ _ hb hr => .arm h1 h2 h3 hb hr) h

theorem rStmtB_mono {B B' : Prop} {args : List Str} (hBB : B → B') : ∀ {s : Stmt} {p : PT}, RStmtB B args s p → RStmtB B' args s p :=
  fun h => match rBlockB_mono hBB (.cons h .nil) with
    | .cons hs _ => hs
    | .blank _ _ hr => nomatch hr

theorem rArmsB_mono {B B' : Prop} {args : List Str} (hBB : B → B') : ∀ {a : Arms} {els : Block} {brs : List PT}, RArmsB B args a els brs → RArmsB B' args a els brs :=
  fun h => match rStmtB_mono hBB (.ite (text := ['x']) (by decide) h) with
    | .ite _ ha => ha

theorem rBlockB_false_iff {args : List Str} {b : Block} {ps : List PT} : RBlockB False args b ps ↔ RBlock args b ps :=
  ⟨rBlockB_false, rBlock_toB⟩

end Cicada.C14
