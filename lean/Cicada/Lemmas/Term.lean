import Cicada.Spec.C07
/-!
# Invariants of the step system of `Model/Term.lean`

`Step` lists the results of `step` as a relation; `step_sound` is the only proof that looks inside `step`, every invariant is
preserved by cases on `Step`.  `CtlInv`: the control state determines who owns the terminal.  `ProcInv` (with the parent's
`setpgid`): every child is in its pipeline's group outside the window between its fork and that call, and a foreground launch
has been given the terminal (`tcsetpgrp` cannot refuse: the child it names is alive); `C07_fg_owns` rests on the latter.
-/
namespace Cicada.Term
open Cicada.Jobs Cicada.C07

/-- only those enabling tests are recorded that an invariant uses; the resulting state is the literal `step` returns -/
inductive Step (c : Cfg) (s : State) : Act → State → Prop
  | launch {bg cmds} (hm : s.mode = .prompt) (hne : cmds ≠ []) :
    Step c s (.launch bg cmds) { s with mode := .launching { bg := bg, cmds := cmds } }
  | fgMsg {n ex} (hm : s.mode = .prompt) (m : String) :
    Step c s (.fg n ex) { s with out := s.out ++ [.msg m], mode := .eol }
  | fgNoTty {n ex} (hm : s.mode = .prompt) : Step c s (.fg n ex) { s with mode := .eol }
  | fgDone {n ex} (hm : s.mode = .prompt) (j : Job) :
    Step c s (.fg n ex) { s with tfg := j.gid, procs := sigGroup s.procs j.gid .cont, sh := markRunning s.sh j.gid false,
                                 mode := .handback j.gid .fgBuiltin }
  | fgWait {n ex} (hm : s.mode = .prompt) (j : Job) (hj : ¬ j.pids.isEmpty = true) :
    Step c s (.fg n ex) { s with tfg := j.gid, procs := sigGroup s.procs j.gid .cont, sh := markRunning s.sh j.gid false,
                                 mode := .waiting { gid := j.gid, pids := j.pids, origin := .fgBuiltin } }
  | bgMsg {n ex} (hm : s.mode = .prompt) (m : String) :
    Step c s (.bg n ex) { s with out := s.out ++ [.msg m], mode := .eol }
  | bgRunning {n ex} (hm : s.mode = .prompt) (j : Job) :
    Step c s (.bg n ex) { s with procs := sigGroup s.procs j.gid .cont, out := s.out ++ [.msg "bg: already in background"], mode := .eol }
  | bgResumed {n ex} (hm : s.mode = .prompt) (j : Job) :
    Step c s (.bg n ex) { s with procs := sigGroup s.procs j.gid .cont, sh := markRunning s.sh j.gid true,
                                 out := s.out ++ [.msg "bg: resumed"], mode := .eol }
  | jobsNone (hm : s.mode = .prompt) : Step c s .jobs { s with mode := .eol }
  | jobsList (hm : s.mode = .prompt) :
    Step c s .jobs { pollR false s with out := (pollR false s).out ++ listing (pollR false s).sh, mode := .eol }
  | empty (hm : s.mode = .prompt) : Step c s .empty { s with mode := .eol }
  | fork {pid} (l : Launch) (hm : s.mode = .launching l) (hph : l.phase = .fork) (hz : pid ≠ 0) (hsh : pid ≠ s.shell)
      (hnew : ∀ q ∈ s.procs, q.pid ≠ pid) :
    Step c s (.fork pid)
      { s with procs := s.procs ++ [({ pid := pid, first := if l.idx = 0 then pid else l.pgid, pgid := s.shell } : Proc)],
               mode := .launching { l with pgid := if l.idx = 0 then pid else l.pgid,
                                           phase := if c.parentSetpgid then .pset pid else if l.idx = 0 then .give pid else .insert pid } }
  | pset (l : Launch) (p : Pid) (hm : s.mode = .launching l) (hph : l.phase = .pset p) :
    Step c s .psetpgid
      { s with procs := updProc s.procs p fun q =>
                 if q.st ≠ .reaped && setpgidOk s.procs p q.first then { q with pgid := q.first, psetDone := true } else q,
               mode := .launching { l with phase := if l.idx = 0 then .give p else .insert p } }
  | giveOk (l : Launch) (p : Pid) (hm : s.mode = .launching l) (hph : l.phase = .give p) (hfg : (c.interactive && !l.bg) = true) :
    Step c s .give { s with tfg := p, mode := .launching { l with termGiven := true, phase := .insert p } }
  | giveFail (l : Launch) (p : Pid) (hm : s.mode = .launching l) (hph : l.phase = .give p) (htc : ¬ tcsetOk s.procs p = true) :
    Step c s .give { s with mode := .launching { l with termGiven := false, phase := .insert p } }
  | giveSkip (l : Launch) (p : Pid) (hm : s.mode = .launching l) (hph : l.phase = .give p) (hfg : ¬ (c.interactive && !l.bg) = true) :
    Step c s .give { s with mode := .launching { l with phase := .insert p } }
  | insert (l : Launch) (p : Pid) (cmd : String) (rest : List String) (hm : s.mode = .launching l) (hph : l.phase = .insert p) :
    Step c s .insert
      { s with sh := if c.interactive then insertJob s.sh l.pgid p l.bg else s.sh,
               cmds := if c.interactive then addCmd s.cmds l.pgid cmd else s.cmds,
               mode := .launching { l with cmds := rest, idx := l.idx + 1, phase := .fork,
                                           fgPids := if l.bg then l.fgPids else l.fgPids ++ [p] } }
  | launchedBg (l : Launch) (hm : s.mode = .launching l) (hph : l.phase = .fork) (hb : l.bg = true) :
    Step c s .launched
      { s with out := s.out ++ (match findGid s.sh l.pgid with
                 | some j => [Out.launched j.id j.gid]
                 | none => []), mode := .eol }
  | launchedNone (l : Launch) (hm : s.mode = .launching l) (hph : l.phase = .fork) :
    Step c s .launched { s with mode := .handback l.pgid (.launch l.termGiven) }
  | launchedWait (l : Launch) (hm : s.mode = .launching l) (hph : l.phase = .fork) (hcm : l.cmds = []) (hb : ¬ l.bg = true)
      (hne : ¬ l.fgPids.isEmpty = true) :
    Step c s .launched { s with mode := .waiting { gid := l.pgid, pids := l.fgPids, origin := .launch l.termGiven } }
  | csetpgid {pid} :
    Step c s (.csetpgid pid)
      { s with procs := updProc s.procs pid fun q =>
                 if setpgidOk s.procs pid q.first then { q with pgid := q.first, csetDone := true } else { q with csetDone := true } }
  | exit {pid code} :
    Step c s (.exit pid code) { s with procs := updProc s.procs pid fun q => { q with st := .zombie, note := some (.exited pid code) } }
  | signal {pid sg} : Step c s (.signal pid sg) { s with procs := updProc s.procs pid fun q => sigProc q sg }
  | ctrlC : Step c s .ctrlC { s with procs := sigGroup s.procs s.tfg .int }
  | ctrlZ : Step c s .ctrlZ { s with procs := sigGroup s.procs s.tfg .tstp }
  | waitGet {pid} (w : Wait) (p : Proc) (e : Ev) (hm : s.mode = .waiting w) (hp : findProc s.procs pid = some p) (he : p.note = some e) :
    Step c s (.waitGet pid)
      { s with sh := (waitEv s.sh w e).1, procs := updProc s.procs pid consume, out := s.out ++ (waitEv s.sh w e).2.1,
               mode := if !(waitEv s.sh w e).2.2.2 && (waitEv s.sh w e).2.2.1 ≥ w.pids.length then .handback w.gid w.origin
                       else .waiting { w with waited := (waitEv s.sh w e).2.2.1 } }
  | waitEchild {w : Wait} (hm : s.mode = .waiting w) : Step c s .waitEchild { s with mode := .handback w.gid w.origin }
  | handbackLaunch {g : Pid} {tg : Bool} (hm : s.mode = .handback g (.launch tg)) :
    Step c s .handback { s with tfg := if tg then s.shell else s.tfg, mode := .eol }
  | handbackFg {g : Pid} (hm : s.mode = .handback g .fgBuiltin) : Step c s .handback { s with tfg := s.shell, mode := .eol }
  | poll (hm : s.mode = .eol) : Step c s .poll { pollR true s with mode := .prompt }

theorem step_sound {c : Cfg} {s s' : State} {a : Act} (hs : step c s a = some s') : Step c s a s' := by
  cases a with
  | launch bg cmds =>
    cases hm : s.mode with
    | prompt =>
      simp only [step, hm] at hs
      by_cases hne : cmds.isEmpty = true
      · rw [if_pos hne] at hs; cases hs
      · rw [if_neg hne] at hs; cases hs
        exact .launch hm (by simpa using hne)
    | _ => simp [step, hm] at hs
  | fg n ex =>
    cases hm : s.mode with
    | prompt =>
      simp only [step, hm, stepFg] at hs
      by_cases h1 : s.sh.jobs.isEmpty = true
      · rw [if_pos h1] at hs; cases hs; exact .fgMsg hm _
      rw [if_neg h1] at hs
      by_cases h2 : (!ex && !s.sh.jobs.any (·.id = n)) = true
      · rw [if_pos h2] at hs; cases hs
      rw [if_neg h2] at hs
      cases hr : resolveJob s.sh n with
      | none => rw [hr] at hs; cases hs; exact .fgMsg hm _
      | some j =>
        rw [hr] at hs
        dsimp only at hs
        by_cases h3 : (!tcsetOk s.procs j.gid) = true
        · rw [if_pos h3] at hs; cases hs; exact .fgNoTty hm
        rw [if_neg h3] at hs
        by_cases hj : j.pids.isEmpty = true
        · rw [if_pos hj] at hs; cases hs; exact .fgDone hm j
        · rw [if_neg hj] at hs; cases hs; exact .fgWait hm j hj
    | _ => simp [step, hm] at hs
  | bg n ex =>
    cases hm : s.mode with
    | prompt =>
      simp only [step, hm, stepBg] at hs
      by_cases h1 : s.sh.jobs.isEmpty = true
      · rw [if_pos h1] at hs; cases hs; exact .bgMsg hm _
      rw [if_neg h1] at hs
      by_cases h2 : (!ex && !s.sh.jobs.any (·.id = n)) = true
      · rw [if_pos h2] at hs; cases hs
      rw [if_neg h2] at hs
      cases hr : resolveJob s.sh n with
      | none => rw [hr] at hs; cases hs; exact .bgMsg hm _
      | some j =>
        rw [hr] at hs
        dsimp only at hs
        by_cases h3 : j.status = "Running"
        · rw [if_pos h3] at hs; cases hs; exact .bgRunning hm j
        · rw [if_neg h3] at hs; cases hs; exact .bgResumed hm j
    | _ => simp [step, hm] at hs
  | jobs =>
    cases hm : s.mode with
    | prompt =>
      simp only [step, hm] at hs
      by_cases hne : s.sh.jobs.isEmpty = true
      · rw [if_pos hne] at hs; cases hs; exact .jobsNone hm
      · rw [if_neg hne] at hs; cases hs; exact .jobsList hm
    | _ => simp [step, hm] at hs
  | empty =>
    cases hm : s.mode with
    | prompt => simp only [step, hm] at hs; cases hs; exact .empty hm
    | _ => simp [step, hm] at hs
  | fork pid =>
    cases hm : s.mode with
    | launching l =>
      simp only [step, hm, stepFork] at hs
      split at hs
      · rename_i hph _
        by_cases hfresh : (pid = 0 || pid = s.shell || s.procs.any (·.pid = pid)) = true
        · rw [if_pos hfresh] at hs; cases hs
        · rw [if_neg hfresh] at hs; cases hs
          simp only [Bool.or_eq_true, decide_eq_true_eq, not_or, List.any_eq_true, not_exists, not_and] at hfresh
          exact .fork l hm hph hfresh.1.1 hfresh.1.2 hfresh.2
      · cases hs
    | _ => simp [step, hm] at hs
  | psetpgid =>
    cases hm : s.mode with
    | launching l =>
      simp only [step, hm, stepPset] at hs
      split at hs
      · rename_i p hph; cases hs; exact .pset l p hm hph
      · cases hs
    | _ => simp [step, hm] at hs
  | give =>
    cases hm : s.mode with
    | launching l =>
      simp only [step, hm, stepGive] at hs
      split at hs
      · rename_i p hph
        by_cases hfg : (c.interactive && !l.bg) = true
        · rw [if_pos hfg] at hs
          by_cases htc : tcsetOk s.procs p = true
          · rw [if_pos htc] at hs; cases hs; exact .giveOk l p hm hph hfg
          · rw [if_neg htc] at hs; cases hs; exact .giveFail l p hm hph htc
        · rw [if_neg hfg] at hs; cases hs; exact .giveSkip l p hm hph hfg
      · cases hs
    | _ => simp [step, hm] at hs
  | insert =>
    cases hm : s.mode with
    | launching l =>
      simp only [step, hm, stepInsert] at hs
      split at hs
      · rename_i p cmd rest hph _
        have := Step.insert (c := c) l p cmd rest hm hph
        cases hi : c.interactive <;> simp only [hi, ↓reduceIte, Bool.false_eq_true] at hs this <;> cases hs <;> exact this
      · cases hs
    | _ => simp [step, hm] at hs
  | launched =>
    cases hm : s.mode with
    | launching l =>
      simp only [step, hm, stepLaunched] at hs
      split at hs
      · rename_i hph hcm
        by_cases hb : l.bg = true
        · rw [if_pos hb] at hs; cases hs; exact .launchedBg l hm hph hb
        rw [if_neg hb] at hs
        by_cases hne : l.fgPids.isEmpty = true
        · rw [if_pos hne] at hs; cases hs; exact .launchedNone l hm hph
        · rw [if_neg hne] at hs; cases hs; exact .launchedWait l hm hph hcm hb hne
      · cases hs
    | _ => simp [step, hm] at hs
  | csetpgid pid | exit pid code | signal pid sg =>
    simp only [step] at hs
    split at hs
    · split at hs
      · cases hs; constructor
      · cases hs
    · cases hs
  | ctrlC | ctrlZ => cases hs; constructor
  | waitGet pid =>
    cases hm : s.mode with
    | waiting w =>
      simp only [step, hm, stepWaitGet] at hs
      cases hp : findProc s.procs pid with
      | none => rw [hp] at hs; cases hs
      | some p =>
        rw [hp] at hs
        dsimp only at hs
        cases he : p.note with
        | none => rw [he] at hs; cases hs
        | some e => rw [he] at hs; cases hs; exact .waitGet w p e hm hp he
    | _ => simp [step, hm] at hs
  | waitEchild =>
    cases hm : s.mode with
    | waiting w =>
      simp only [step, hm] at hs
      by_cases hall : s.procs.all (·.st = .reaped) = true
      · rw [if_pos hall] at hs; cases hs; exact .waitEchild hm
      · rw [if_neg hall] at hs; cases hs
    | _ => simp [step, hm] at hs
  | handback =>
    cases hm : s.mode with
    | handback g o =>
      cases o with
      | launch tg => simp only [step, hm] at hs; cases hs; exact .handbackLaunch hm
      | fgBuiltin => simp only [step, hm] at hs; cases hs; exact .handbackFg hm
    | _ => simp [step, hm] at hs
  | poll =>
    cases hm : s.mode with
    | eol => simp only [step, hm] at hs; cases hs; exact .poll hm
    | _ => simp [step, hm] at hs

structure LaunchOk (l : Launch) : Prop where
  /-- before `give_terminal_to` ran nothing was given -/
  early : l.idx = 0 → (l.phase = .fork ∨ (∃ p, l.phase = .pset p) ∨ ∃ p, l.phase = .give p) → l.termGiven = false
  /-- the child in hand during the first stage is the group leader -/
  cur : ∀ p, (l.phase = .pset p ∨ l.phase = .give p ∨ l.phase = .insert p) → l.idx = 0 → l.pgid = p
  /-- a background launch never gets the terminal -/
  bgNo : l.bg = true → l.termGiven = false
  /-- stages remain while the first one is not done -/
  more : l.idx = 0 → l.cmds ≠ []
  /-- `give` is a step of the first stage only -/
  giveFirst : ∀ p, l.phase = .give p → l.idx = 0

def CtlInv (s : State) : Prop :=
  s.tfg = (fgGid s.mode).getD s.shell ∧
  (∀ l, s.mode = .launching l → LaunchOk l)

theorem ctlInv_init (p : Pid) : CtlInv (init p) := by
  refine ⟨rfl, ?_⟩
  intro l h
  simp [init] at h

@[simp] theorem pollR_tfg (r : Bool) (s : State) : (pollR r s).tfg = s.tfg := by
  unfold pollR; split <;> rfl

@[simp] theorem pollR_shell (r : Bool) (s : State) : (pollR r s).shell = s.shell := by
  unfold pollR; split <;> rfl

theorem ctlInv_of_fgGid {s s' : State} (h : CtlInv s) (ht : s'.tfg = s.tfg) (hsh : s'.shell = s.shell)
    (hg : fgGid s'.mode = fgGid s.mode) (hm : ∀ l, s'.mode ≠ .launching l) : CtlInv s' :=
  ⟨by rw [ht, hsh, hg]; exact h.1, fun l hl => absurd hl (hm l)⟩

theorem ctlInv_launching {s' : State} {l' : Launch} (hm : s'.mode = .launching l')
    (ht : s'.tfg = (fgGid (.launching l')).getD s'.shell) (hok : LaunchOk l') : CtlInv s' :=
  ⟨hm ▸ ht, fun l hl => by rw [hm] at hl; cases hl; exact hok⟩

theorem LaunchOk.give {l : Launch} {p : Pid} (hok : LaunchOk l) (hph : l.phase = .give p) {tg : Bool}
    (hbg : l.bg = true → tg = false) : LaunchOk { l with termGiven := tg, phase := .insert p } :=
  ⟨fun _ h => by simp at h,
   fun q hq _ => by simp at hq; exact hq ▸ hok.cur p (.inr (.inl hph)) (hok.giveFirst p hph),
   hbg, hok.more, fun q hq => by simp at hq⟩

theorem ctlInv_step {c : Cfg} {s s' : State} {a : Act} (h : CtlInv s) (hs : Step c s a s') : CtlInv s' := by
  obtain ⟨ht, hl⟩ := h
  cases hs with
  | launch hm hne =>
    exact ctlInv_launching rfl (by simpa [fgGid, hm] using ht)
      ⟨fun _ _ => rfl, by intro p hp; simp at hp, fun _ => rfl, fun _ hc => hne hc, by intro p hp; simp at hp⟩
  | fgMsg hm | fgNoTty hm | bgMsg hm | bgRunning hm | bgResumed hm | jobsNone hm | empty hm =>
    exact ctlInv_of_fgGid ⟨ht, hl⟩ rfl rfl (by rw [hm]; rfl) (by simp)
  | jobsList hm | poll hm =>
    exact ctlInv_of_fgGid ⟨ht, hl⟩ (pollR_tfg _ s) (pollR_shell _ s) (by rw [hm]; rfl) (by simp)
  | fgDone | fgWait | handbackFg => exact ⟨rfl, by simp⟩
  | fork l hm hph =>
    have hok := hl l hm
    refine ctlInv_launching rfl ?_ ⟨fun h0 _ => hok.early h0 (Or.inl hph), ?_, hok.bgNo, hok.more, ?_⟩
    · by_cases h0 : l.idx = 0
      · simpa [fgGid, hm, hok.early h0 (Or.inl hph)] using ht
      · simpa [fgGid, hm, h0] using ht
    · intro p hp h0
      have h0' : l.idx = 0 := h0
      simp only [if_pos h0'] at hp ⊢
      cases hc : c.parentSetpgid <;> simp [hc] at hp <;> exact hp
    · intro p hp
      refine Decidable.by_contra fun h0 => ?_
      have h0' : ¬ l.idx = 0 := h0
      cases hc : c.parentSetpgid <;> simp [hc, h0'] at hp
  | pset l p hm hph =>
    have hok := hl l hm
    refine ctlInv_launching rfl (by simpa [fgGid, hm] using ht)
      ⟨fun h0 _ => hok.early h0 (Or.inr (Or.inl ⟨p, hph⟩)), ?_, hok.bgNo, hok.more, ?_⟩
    · intro q hq h0
      have h0' : l.idx = 0 := h0
      simp [h0'] at hq
      exact hq ▸ hok.cur p (Or.inl hph) h0'
    · intro q hq
      dsimp only at hq
      split at hq
      · assumption
      · simp at hq
  | giveOk l p hm hph hfg =>
    have hok := hl l hm
    exact ctlInv_launching rfl (by simp [fgGid, hok.cur p (.inr (.inl hph)) (hok.giveFirst p hph)])
      (hok.give hph fun hb => by simp [hb] at hfg)
  | giveFail l p hm hph =>
    have hok := hl l hm
    have hearly := hok.early (hok.giveFirst p hph) (Or.inr (Or.inr ⟨p, hph⟩))
    exact ctlInv_launching rfl (by simpa [fgGid, hm, hearly] using ht) (hok.give hph fun _ => rfl)
  | giveSkip l p hm hph =>
    have hok := hl l hm
    have hearly := hok.early (hok.giveFirst p hph) (Or.inr (Or.inr ⟨p, hph⟩))
    exact ctlInv_launching rfl (by simpa [fgGid, hm, hearly] using ht) (hok.give hph hok.bgNo)
  | insert l p cmd rest hm hph =>
    exact ctlInv_launching rfl (by simpa [fgGid, hm] using ht)
      ⟨by intro h; simp at h, by intro q hq; simp at hq, (hl l hm).bgNo, by intro h; simp at h, by intro q hq; simp at hq⟩
  | launchedBg l hm hph hb =>
    exact ctlInv_of_fgGid ⟨ht, hl⟩ rfl rfl (by rw [hm]; simp [fgGid, (hl l hm).bgNo hb]) (by simp)
  | launchedNone l hm | launchedWait l hm | waitEchild hm =>
    exact ctlInv_of_fgGid ⟨ht, hl⟩ rfl rfl (by rw [hm]; rfl) (by simp)
  | csetpgid | exit | signal | ctrlC | ctrlZ => exact ⟨ht, hl⟩
  | waitGet w p e hm =>
    refine ctlInv_of_fgGid ⟨ht, hl⟩ rfl rfl ?_ ?_
    · rw [hm]; dsimp only; split <;> rfl
    · intro l; dsimp only; split <;> simp
  | @handbackLaunch g tg hm =>
    refine ⟨?_, by simp⟩
    cases tg
    · simpa [fgGid, hm] using ht
    · simp [fgGid]

theorem ctlInv_reachable {c : Cfg} {s : State} (h : Reachable c s) : CtlInv s := by
  induction h with
  | init p _ => exact ctlInv_init p
  | step a _ hs ih => exact ctlInv_step ih (step_sound hs)

def UniqPid (procs : List Proc) : Prop := ∀ q ∈ procs, ∀ q' ∈ procs, q.pid = q'.pid → q = q'

def Keeps (f : Proc → Proc) : Prop :=
  ∀ q, (f q).pid = q.pid ∧ (f q).first = q.first ∧ ((f q).pgid = q.pgid ∨ (f q).pgid = q.first)

def Benign (f : Proc → Proc) : Prop := Keeps f ∧ ∀ q, q.st ≠ .reaped → (f q).st ≠ .reaped

theorem uniq_map {l : List Proc} {f : Proc → Proc} (hf : ∀ q, (f q).pid = q.pid) (h : UniqPid l) : UniqPid (l.map f) := by
  intro a ha b hb hab
  simp only [List.mem_map] at ha hb
  obtain ⟨a0, ha0, rfl⟩ := ha
  obtain ⟨b0, hb0, rfl⟩ := hb
  rw [hf, hf] at hab
  rw [h a0 ha0 b0 hb0 hab]

structure ProcInv (c : Cfg) (s : State) : Prop where
  uniq : UniqPid s.procs
  /-- every child but the one between its fork and the parent's `setpgid` is in its pipeline's group -/
  grouped : ∀ p ∈ s.procs, p.pgid = p.first ∨ ∃ l, s.mode = .launching l ∧ l.phase = .pset p.pid
  /-- the child in hand exists and has not been reaped -/
  inHand : ∀ l p, s.mode = .launching l → (l.phase = .pset p ∨ l.phase = .give p ∨ l.phase = .insert p) →
    ∃ q ∈ s.procs, q.pid = p ∧ q.st ≠ .reaped ∧ q.first = l.pgid
  /-- from the second stage on the group leader exists, in its own group, not reaped -/
  leader : ∀ l, s.mode = .launching l → l.idx > 0 →
    ∃ q ∈ s.procs, q.pid = l.pgid ∧ q.first = l.pgid ∧ q.pgid = l.pgid ∧ q.st ≠ .reaped
  /-- in an interactive session a foreground launch has the terminal from `give_terminal_to` on -/
  given : ∀ l, s.mode = .launching l → c.interactive = true → l.bg = false → (l.idx > 0 ∨ ∃ p, l.phase = .insert p) → l.termGiven = true
  /-- … and still has it while the shell waits for that launch -/
  waitGiven : ∀ w tg, s.mode = .waiting w → w.origin = .launch tg → c.interactive = true → tg = true

theorem sigProc_benign (sg : Sig) : Benign (fun q => sigProc q sg) := by
  have key : ∀ q : Proc, (sigProc q sg).pid = q.pid ∧ (sigProc q sg).first = q.first ∧ (sigProc q sg).pgid = q.pgid ∧
      (q.st ≠ .reaped → (sigProc q sg).st ≠ .reaped) := by
    intro q
    unfold sigProc
    cases hst : q.st <;> cases sg <;> dsimp only <;> (try split) <;> simp [hst]
  exact ⟨fun q => ⟨(key q).1, (key q).2.1, Or.inl (key q).2.2.1⟩, fun q => (key q).2.2.2⟩

theorem consume_keeps : Keeps consume := by
  intro q; simp [consume]

theorem keeps_id : Keeps (fun q => q) := fun _ => ⟨rfl, rfl, Or.inl rfl⟩

theorem keeps_ite {f : Proc → Proc} (hf : Keeps f) (P : Proc → Prop) [DecidablePred P] : Keeps (fun q => if P q then f q else q) := by
  intro q
  by_cases h : P q <;> simp [h, hf q]

theorem benign_ite {f : Proc → Proc} (hf : Benign f) (P : Proc → Prop) [DecidablePred P] : Benign (fun q => if P q then f q else q) := by
  refine ⟨keeps_ite hf.1 P, ?_⟩
  intro q hq
  by_cases h : P q <;> simp [h, hq, hf.2 q hq]

theorem procInv_benign {c : Cfg} {s s' : State} {f : Proc → Proc} (h : ProcInv c s) (hf : Benign f)
    (hm : s'.mode = s.mode) (hp : s'.procs = s.procs.map f) : ProcInv c s' := by
  obtain ⟨hk, hr⟩ := hf
  refine ⟨?_, ?_, ?_, ?_, ?_, ?_⟩
  · rw [hp]; exact uniq_map (fun q => (hk q).1) h.uniq
  · intro p hpm
    rw [hp, List.mem_map] at hpm
    obtain ⟨q, hq, rfl⟩ := hpm
    rw [hm, (hk q).1, (hk q).2.1]
    rcases (hk q).2.2 with h1 | h1
    · exact (h.grouped q hq).imp_left fun hg => by rw [h1, hg]
    · exact Or.inl h1
  · intro l p hl hph
    rw [hm] at hl
    obtain ⟨q, hq, h1, h2, h3⟩ := h.inHand l p hl hph
    exact ⟨f q, by rw [hp]; exact List.mem_map_of_mem hq, by rw [(hk q).1, h1], hr q h2, by rw [(hk q).2.1, h3]⟩
  · intro l hl hi
    rw [hm] at hl
    obtain ⟨q, hq, h1, h2, h3, h4⟩ := h.leader l hl hi
    refine ⟨f q, by rw [hp]; exact List.mem_map_of_mem hq, by rw [(hk q).1, h1], by rw [(hk q).2.1, h2], ?_, hr q h4⟩
    rcases (hk q).2.2 with h5 | h5
    · rw [h5, h3]
    · rw [h5, h2]
  · intro l hl; rw [hm] at hl; exact h.given l hl
  · intro w tg hw; rw [hm] at hw; exact h.waitGiven w tg hw

theorem procInv_keeps {c : Cfg} {s s' : State} {f : Proc → Proc} (h : ProcInv c s) (hf : Keeps f)
    {m : Mode} (hm : s.mode = m) (hnl : ∀ l, m ≠ .launching l) (hm' : ∀ l, s'.mode ≠ .launching l)
    (hp : s'.procs = s.procs.map f)
    (hw : ∀ w tg, s'.mode = .waiting w → w.origin = .launch tg → c.interactive = true → tg = true) : ProcInv c s' := by
  refine ⟨?_, ?_, ?_, ?_, ?_, hw⟩
  · rw [hp]; exact uniq_map (fun q => (hf q).1) h.uniq
  · intro p hpm
    rw [hp, List.mem_map] at hpm
    obtain ⟨q, hq, rfl⟩ := hpm
    left
    rw [(hf q).2.1]
    rcases h.grouped q hq with hg | ⟨l, hl, _⟩
    · rcases (hf q).2.2 with h1 | h1
      · rw [h1, hg]
      · exact h1
    · exact absurd (hm ▸ hl) (hnl l)
  · intro l p hl; exact absurd hl (hm' l)
  · intro l hl; exact absurd hl (hm' l)
  · intro l hl; exact absurd hl (hm' l)

/- updates of the process list in the shape `procs.map fun p => if _ then f p else p` of `keeps_ite` / `benign_ite` -/
theorem map_id_eq (l : List Proc) : l = l.map (fun q => q) := by simp

theorem updProc_eq (procs : List Proc) (pid : Pid) (f : Proc → Proc) :
    updProc procs pid f = procs.map (fun p => if p.pid = pid then f p else p) := rfl

theorem sigGroup_eq (procs : List Proc) (g : Pid) (sg : Sig) :
    sigGroup procs g sg = procs.map (fun p => if p.pgid = g then (fun q => sigProc q sg) p else p) := rfl

theorem mem_of_findProc {procs : List Proc} {pid : Pid} {p : Proc} (h : findProc procs pid = some p) : p ∈ procs ∧ p.pid = pid := by
  unfold findProc at h
  exact ⟨List.mem_of_find?_eq_some h, by simpa using List.find?_some h⟩

theorem ProcInv.grouped_of {c : Cfg} {s : State} {l : Launch} (h : ProcInv c s) (hm : s.mode = .launching l) {x : Proc}
    (hx : x ∈ s.procs) (hne : l.phase ≠ .pset x.pid) : x.pgid = x.first := by
  rcases h.grouped x hx with hg | ⟨l2, hl2, hph2⟩
  · exact hg
  · rw [hm] at hl2; cases hl2; exact absurd hph2 hne

theorem procInv_launching {c : Cfg} {s' : State} {l' : Launch} (hm : s'.mode = .launching l') (uniq : UniqPid s'.procs)
    (grouped : ∀ p ∈ s'.procs, p.pgid = p.first ∨ l'.phase = .pset p.pid)
    (inHand : ∀ p, (l'.phase = .pset p ∨ l'.phase = .give p ∨ l'.phase = .insert p) →
      ∃ q ∈ s'.procs, q.pid = p ∧ q.st ≠ .reaped ∧ q.first = l'.pgid)
    (leader : l'.idx > 0 → ∃ q ∈ s'.procs, q.pid = l'.pgid ∧ q.first = l'.pgid ∧ q.pgid = l'.pgid ∧ q.st ≠ .reaped)
    (given : c.interactive = true → l'.bg = false → (l'.idx > 0 ∨ ∃ p, l'.phase = .insert p) → l'.termGiven = true) :
    ProcInv c s' := by
  refine ⟨uniq, fun p hp => (grouped p hp).imp_right fun h => ⟨l', hm, h⟩, ?_, ?_, ?_, ?_⟩
  · intro l p hl; rw [hm] at hl; cases hl; exact inHand p
  · intro l hl; rw [hm] at hl; cases hl; exact leader
  · intro l hl; rw [hm] at hl; cases hl; exact given
  · intro w tg hw; rw [hm] at hw; cases hw

theorem procInv_leave {c : Cfg} {s s' : State} {l : Launch} (h : ProcInv c s) (hm : s.mode = .launching l) (hph : l.phase = .fork)
    (hp : s'.procs = s.procs) (hm' : ∀ l', s'.mode ≠ .launching l')
    (hw : ∀ w tg, s'.mode = .waiting w → w.origin = .launch tg → c.interactive = true → tg = true) : ProcInv c s' := by
  refine ⟨by rw [hp]; exact h.uniq, ?_, ?_, ?_, ?_, hw⟩
  · intro p hpm
    rw [hp] at hpm
    exact Or.inl (h.grouped_of hm hpm (by rw [hph]; simp))
  · intro l' p hl'; exact absurd hl' (hm' l')
  · intro l' hl'; exact absurd hl' (hm' l')
  · intro l' hl'; exact absurd hl' (hm' l')

theorem procInv_give {c : Cfg} {s s' : State} {l : Launch} {p : Pid} {tg : Bool} (h : ProcInv c s) (hm : s.mode = .launching l)
    (hph : l.phase = .give p) (hp : s'.procs = s.procs) (hm' : s'.mode = .launching { l with termGiven := tg, phase := .insert p })
    (hg : c.interactive = true → l.bg = false → tg = true) : ProcInv c s' := by
  refine procInv_launching hm' (hp ▸ h.uniq) (fun x hx => Or.inl (h.grouped_of hm (hp ▸ hx) (by rw [hph]; simp))) ?_
    (hp ▸ h.leader l hm) (fun hi hb _ => hg hi hb)
  intro p' hp'
  simp at hp'; subst hp'
  exact hp ▸ h.inHand l p hm (Or.inr (Or.inl hph))

theorem pollR_procs (r : Bool) (s : State) : (pollR r s).procs = s.procs ∨ (pollR r s).procs = s.procs.map consume := by
  unfold pollR; split
  · exact Or.inl rfl
  · exact Or.inr rfl

theorem procInv_step {c : Cfg} {s s' : State} {a : Act} (hc : c.parentSetpgid = true) (hctl : CtlInv s) (h : ProcInv c s)
    (hs : Step c s a s') : ProcInv c s' := by
  have noW : ∀ {m : Mode}, (∀ w, m ≠ .waiting w) →
      ∀ (w : Wait) (tg : Bool), m = .waiting w → w.origin = .launch tg → c.interactive = true → tg = true :=
    fun hn w _ hw => absurd hw (hn w)
  cases hs with
  | launch hm _ =>
    refine procInv_launching rfl h.uniq ?_ (by intro p hph; simp at hph) (by intro hi; simp at hi) (by intro _ _ hor; simp at hor)
    intro p hp
    rcases h.grouped p hp with hg | ⟨l, hl, _⟩
    · exact Or.inl hg
    · rw [hm] at hl; cases hl
  | fgMsg hm | fgNoTty hm | bgMsg hm | jobsNone hm | empty hm | waitEchild hm | handbackLaunch hm | handbackFg hm =>
    exact procInv_keeps h keeps_id hm (by simp) (by simp) (map_id_eq _) (noW (by simp))
  | fgDone hm | bgRunning hm | bgResumed hm =>
    exact procInv_keeps h (keeps_ite (sigProc_benign .cont).1 _) hm (by simp) (by simp) (sigGroup_eq _ _ _) (noW (by simp))
  | fgWait hm =>
    refine procInv_keeps h (keeps_ite (sigProc_benign .cont).1 _) hm (by simp) (by simp) (sigGroup_eq _ _ _) ?_
    intro w tg hw ho
    simp only [Mode.waiting.injEq] at hw
    subst hw
    simp at ho
  | jobsList hm | poll hm =>
    rcases pollR_procs _ s with hp | hp
    · exact procInv_keeps h keeps_id hm (by simp) (by simp) (hp.trans (map_id_eq _)) (noW (by simp))
    · exact procInv_keeps h consume_keeps hm (by simp) (by simp) hp (noW (by simp))
  | @fork pid l hm hph _ _ hnew =>
    simp only [hc, ↓reduceIte]
    refine procInv_launching rfl ?_ ?_ ?_ ?_ ?_
    · intro a ha b hb hab
      simp only [List.mem_append, List.mem_singleton] at ha hb
      rcases ha with ha | rfl <;> rcases hb with hb | rfl
      · exact h.uniq a ha b hb hab
      · exact absurd hab (hnew a ha)
      · exact absurd hab.symm (hnew b hb)
      · rfl
    · intro p hp
      simp only [List.mem_append, List.mem_singleton] at hp
      rcases hp with hp | rfl
      · exact Or.inl (h.grouped_of hm hp (by rw [hph]; simp))
      · exact Or.inr rfl
    · intro p hp
      simp at hp
      subst hp
      exact ⟨{ pid := pid, first := if l.idx = 0 then pid else l.pgid, pgid := s.shell }, by simp, rfl, by simp, rfl⟩
    · intro hi
      have hi' : l.idx > 0 := hi
      have hne : l.idx ≠ 0 := by omega
      obtain ⟨q, hq, h1, h2, h3, h4⟩ := h.leader l hm hi'
      refine ⟨q, by simp [hq], ?_, ?_, ?_, h4⟩ <;> simp [hne, h1, h2, h3]
    · intro hi hb hor
      rcases hor with hor | ⟨p, hp⟩
      · exact h.given l hm hi hb (Or.inl hor)
      · simp at hp
  | pset l p hm hph =>
    have hok := hctl.2 l hm
    obtain ⟨q0, hq0, hq0pid, hq0st, hq0first⟩ := h.inHand l p hm (Or.inl hph)
    have hok2 : setpgidOk s.procs p q0.first = true := by
      unfold setpgidOk
      by_cases h0 : l.idx = 0
      · have := hok.cur p (Or.inl hph) h0
        simp [hq0first, this]
      · obtain ⟨q1, hq1, _, _, h13, h14⟩ := h.leader l hm (by omega)
        have : groupExists s.procs q0.first = true := by
          unfold groupExists
          exact List.any_eq_true.mpr ⟨q1, hq1, by simp [h13, hq0first, h14]⟩
        simp [this]
    have hf : Benign (fun q : Proc => if (q.st ≠ .reaped && setpgidOk s.procs p q.first) = true then { q with pgid := q.first, psetDone := true } else q) := by
      refine ⟨?_, ?_⟩
      · intro q; dsimp only; split
        · exact ⟨rfl, rfl, Or.inr rfl⟩
        · exact ⟨rfl, rfl, Or.inl rfl⟩
      · intro q hq; dsimp only; split <;> exact hq
    have hfb := benign_ite hf (fun q => q.pid = p)
    have hmem : ∀ (f : Proc → Proc) {q}, q ∈ s.procs → (if q.pid = p then f q else q) ∈ updProc s.procs p f :=
      fun f _ hq => List.mem_map_of_mem hq
    refine procInv_launching rfl (by rw [updProc_eq]; exact uniq_map (fun q => (hfb.1 q).1) h.uniq) ?_ ?_ ?_ ?_
    · intro x hx
      rw [updProc_eq, List.mem_map] at hx
      obtain ⟨q, hq, rfl⟩ := hx
      left
      by_cases hqp : q.pid = p
      · have : q = q0 := h.uniq q hq q0 hq0 (by rw [hqp, hq0pid])
        subst this
        simp [hqp, hq0st, hok2]
      · simp only [hqp, ↓reduceIte]
        exact h.grouped_of hm hq (by rw [hph]; simpa using fun e => hqp e.symm)
    · intro p' hp'
      have hpp : p' = p := by
        dsimp only at hp'
        split at hp' <;> simp at hp' <;> exact hp'.symm
      subst hpp
      exact ⟨_, hmem _ hq0, ((hfb.1 q0).1).trans hq0pid, hfb.2 q0 hq0st, ((hfb.1 q0).2.1).trans hq0first⟩
    · intro hi
      obtain ⟨q1, hq1, h11, h12, h13, h14⟩ := h.leader l hm hi
      refine ⟨_, hmem _ hq1, ((hfb.1 q1).1).trans h11, ((hfb.1 q1).2.1).trans h12, ?_, hfb.2 q1 h14⟩
      rcases (hfb.1 q1).2.2 with h5 | h5
      · exact h5.trans h13
      · exact h5.trans h12
    · intro hi hb hor
      rcases hor with hor | ⟨p', hp'⟩
      · exact h.given l hm hi hb (Or.inl hor)
      · dsimp only at hp'
        split at hp'
        · simp at hp'
        · rename_i h0; exact h.given l hm hi hb (Or.inl (by omega))
  | giveOk l p hm hph => exact procInv_give h hm hph rfl rfl (fun _ _ => rfl)
  | giveFail l p hm hph htc =>
    -- cannot happen: the child in hand is alive, so `tcsetpgrp` accepts its pid
    obtain ⟨q0, hq0, hq0pid, hq0st, _⟩ := h.inHand l p hm (Or.inr (Or.inl hph))
    exact absurd (List.any_eq_true.mpr ⟨q0, hq0, by simp [hq0pid, hq0st]⟩) htc
  | giveSkip l p hm hph hfg =>
    refine procInv_give h hm hph rfl rfl ?_
    intro hi hb
    simp [hi, hb] at hfg
  | insert l p cmd rest hm hph =>
    obtain ⟨q0, hq0, hq0pid, hq0st, hq0first⟩ := h.inHand l p hm (Or.inr (Or.inr hph))
    have hgr : ∀ x ∈ s.procs, x.pgid = x.first := fun x hx => h.grouped_of hm hx (by rw [hph]; simp)
    refine procInv_launching rfl h.uniq (fun x hx => Or.inl (hgr x hx)) (by intro p' hp'; simp at hp') ?_
      (fun hi hb _ => h.given l hm hi hb (Or.inr ⟨p, hph⟩))
    intro _
    by_cases h0 : l.idx = 0
    · have hpg := (hctl.2 l hm).cur p (Or.inr (Or.inr hph)) h0
      exact ⟨q0, hq0, by simp [hq0pid, hpg], by simp [hq0first], by simp [hgr q0 hq0, hq0first], hq0st⟩
    · exact h.leader l hm (by omega)
  | launchedBg l hm hph | launchedNone l hm hph =>
    exact procInv_leave h hm hph rfl (by simp) (noW (by simp))
  | launchedWait l hm hph hcm hb =>
    refine procInv_leave h hm hph rfl (by simp) ?_
    intro w tg hw ho hi
    simp only [Mode.waiting.injEq] at hw; subst hw
    simp only [Origin.launch.injEq] at ho
    subst ho
    have hidx : l.idx > 0 := by
      by_cases h0 : l.idx = 0
      · exact absurd hcm ((hctl.2 l hm).more h0)
      · omega
    exact h.given l hm hi (by simpa using hb) (Or.inl hidx)
  | csetpgid =>
    refine procInv_benign h (benign_ite (f := fun q => if setpgidOk s.procs _ q.first = true then { q with pgid := q.first, csetDone := true } else { q with csetDone := true }) ?_ _) rfl (updProc_eq _ _ _)
    refine ⟨?_, ?_⟩
    · intro q; dsimp only; split
      · exact ⟨rfl, rfl, Or.inr rfl⟩
      · exact ⟨rfl, rfl, Or.inl rfl⟩
    · intro q hq; dsimp only; split <;> exact hq
  | exit =>
    refine procInv_benign h (benign_ite (f := fun q => { q with st := .zombie, note := some (.exited _ _) }) ?_ _) rfl (updProc_eq _ _ _)
    exact ⟨by intro q; simp, by intro q _; simp⟩
  | signal => exact procInv_benign h (benign_ite (sigProc_benign _) _) rfl (updProc_eq _ _ _)
  | ctrlC => exact procInv_benign h (benign_ite (sigProc_benign .int) _) rfl (sigGroup_eq _ _ _)
  | ctrlZ => exact procInv_benign h (benign_ite (sigProc_benign .tstp) _) rfl (sigGroup_eq _ _ _)
  | waitGet w p e hm =>
    refine procInv_keeps h (keeps_ite consume_keeps _) hm (by simp) ?_ (updProc_eq _ _ _) ?_
    · intro l; dsimp only; split <;> simp
    · intro w' tg hw ho
      dsimp only at hw
      split at hw
      · simp at hw
      · simp only [Mode.waiting.injEq] at hw; subst hw
        exact h.waitGiven w tg hm ho

theorem procInv_init (c : Cfg) (p : Pid) : ProcInv c (init p) :=
  ⟨fun _ h => absurd h List.not_mem_nil, fun _ h => absurd h List.not_mem_nil, fun _ _ h => Mode.noConfusion h,
   fun _ h => Mode.noConfusion h, fun _ h => Mode.noConfusion h, fun _ _ h => Mode.noConfusion h⟩

theorem procInv_reachable {c : Cfg} {s : State} (hc : c.parentSetpgid = true) (h : Reachable c s) : ProcInv c s := by
  induction h with
  | init p _ => exact procInv_init c p
  | step a hr hs ih => exact procInv_step hc (ctlInv_reachable hr) ih (step_sound hs)

end Cicada.Term
