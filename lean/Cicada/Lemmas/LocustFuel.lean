import Cicada.Lemmas.LocustRT
import Cicada.Lemmas.Lit
/-!
# Fuel sufficiency of the script grammar model (C14, parser half)

In `Model/Locust.lean` running out of fuel is not represented distinctly (`pIf 0 _ = none`, `pBodyItems 0 s = ([], s)`,
`pTop 0 s = ([], s)` read like an ordinary failure / end of a repetition).  The honest statement of "the driver's fuel
`parseFuel t = 2 * |t| + 4` is enough" is therefore: the result at that fuel equals the result at every larger fuel.

No parser lengthens the text, and the block constructs shorten it (`LenInv`); hence one more unit of fuel changes nothing once
the fuel is above twice the text length plus a constant per parser (`Stab`), for the top rule from `2 * |t| + 3` on
(`pTop_fuel_succ`).  The inner loop `repAny` of `CMD` / `TEST`: `repAny_fuel_add`.
-/
namespace Cicada.C14
open Cicada Cicada.Locust

/-! ### how much text the fuel-free parsers consume -/

theorem skip_len (s : Str) : (skip s).length ≤ s.length := (skip_suffix s).length_le

theorem pNewline_len {s r : Str} (h : pNewline s = some r) : r.length < s.length := by
  unfold pNewline at h
  split at h <;> simp at h <;> subst h <;> simp <;> omega

theorem pLit_len {lit s r : Str} (h : pLit lit s = some r) : r.length + lit.length = s.length := by
  unfold pLit at h
  split at h
  · rename_i hs
    have e := congrArg List.length (startsWith_eq hs)
    simp only [Option.some.injEq] at h
    subst h
    simp only [List.length_append, List.length_drop] at e ⊢
    omega
  · simp at h

theorem pNlOrEoi_len {s r : Str} (h : pNlOrEoi s = some r) : r.length ≤ s.length := by
  unfold pNlOrEoi at h
  split at h
  · rename_i r' hr
    simp only [Option.some.injEq] at h
    subst h
    exact Nat.le_of_lt (pNewline_len hr)
  · split at h
    · simp only [Option.some.injEq] at h
      subst h
      simp
    · simp at h

/-- a keyword of at least three characters (`if `, `for `, `while `, `else if `) -/
theorem kw_len3 {lit s r : Str} (h3 : 3 ≤ lit.length) (h : pLit lit s = some r) : r.length + 3 ≤ s.length := by
  have := pLit_len h
  omega

/-- `"word" ~ fin` where `fin` does not lengthen the text: strictly shorter as soon as the word is not empty -/
theorem kwEnd_len (fin : Str → Option Str) (hfin : ∀ x y, fin x = some y → y.length ≤ x.length)
    (w : Str) (hw : 0 < w.length) {s r : Str} (h : (pLit w s).bind (fun r => fin (skip r)) = some r) :
    r.length < s.length := by
  cases h1 : pLit w s with
  | none => simp [h1] at h
  | some r1 =>
    simp only [h1, Option.bind] at h
    have := pLit_len h1
    have := hfin _ _ h
    have := skip_len r1
    omega

theorem kwFi_len {s r : Str} (h : kwFi s = some r) : r.length < s.length :=
  kwEnd_len pNlOrEoi (fun _ _ => pNlOrEoi_len) "fi".toList (by decide +kernel) h

theorem kwDone_len {s r : Str} (h : kwDone s = some r) : r.length < s.length :=
  kwEnd_len pNlOrEoi (fun _ _ => pNlOrEoi_len) "done".toList (by decide +kernel) h

theorem kwElse_len {s r : Str} (h : kwElse s = some r) : r.length < s.length :=
  kwEnd_len pNewline (fun _ _ h => Nat.le_of_lt (pNewline_len h)) "else".toList (by decide +kernel) h

theorem dummy_len (w : Str) {s r : Str} (h : dummy w s = some r) : r.length ≤ s.length := by
  unfold dummy at h
  cases h1 : pLit [';'] s with
  | none => simp [h1] at h
  | some r1 =>
    simp only [h1, Option.bind] at h
    cases h2 : pLit w (skip r1) with
    | none => simp [h2] at h
    | some r2 =>
      simp only [h2] at h
      have := pLit_len h1
      have := pLit_len h2
      have := pNewline_len h
      have := skip_len r1
      have := skip_len r2
      omega

/-- the `(!stop ~ ANY)*` loop never lengthens the text, and is strictly shorter once it has counted a step -/
theorem repAny_len (stop : Str → Bool) : ∀ (f : Nat) (s : Str) (n : Nat) (r : Str) (m : Nat),
    repAny stop f s n = (r, m) → r.length ≤ s.length ∧ n ≤ m ∧ (n < m → r.length < s.length) := by
  intro f
  induction f with
  | zero =>
    intro s n r m h
    simp only [repAny, Prod.mk.injEq] at h
    obtain ⟨rfl, rfl⟩ := h
    simp
  | succ f ih =>
    intro s n r m h
    have h4 : (if n > 0 then skip s else s).length ≤ s.length := by
      split
      · exact skip_len s
      · exact Nat.le_refl _
    unfold repAny at h
    generalize (if n > 0 then skip s else s) = s1 at h h4
    by_cases hst : stop s1 = true
    · simp only [hst, ↓reduceIte, Prod.mk.injEq] at h
      obtain ⟨rfl, rfl⟩ := h
      simp
    · simp only [hst, Bool.false_eq_true, ↓reduceIte] at h
      have h3 := skip_len s1
      cases hsk : skip s1 with
      | nil =>
        simp only [hsk, Prod.mk.injEq] at h
        obtain ⟨rfl, rfl⟩ := h
        simp
      | cons c r' =>
        simp only [hsk] at h
        obtain ⟨h1, h2, _⟩ := ih _ _ _ _ h
        rw [hsk] at h3
        simp only [List.length_cons] at h3
        refine ⟨by omega, by omega, fun _ => by omega⟩

theorem repAny_succ (stop : Str → Bool) (f : Nat) (s : Str) (n : Nat) :
    repAny stop (f + 1) s n =
      if stop (if n > 0 then skip s else s) = true then (s, n) else
        match skip (if n > 0 then skip s else s) with
        | [] => (s, n)
        | _ :: r => repAny stop f r (n + 1) := by
  rw [repAny]; rfl

/-- the inner loop `(!stop ~ ANY)*` of `CMD` / `TEST`: any fuel above the length of the text gives the same result -/
theorem repAny_fuel_succ (stop : Str → Bool) : ∀ (f : Nat) (s : Str) (n : Nat), s.length < f →
    repAny stop f s n = repAny stop (f + 1) s n := by
  intro f
  induction f with
  | zero => intro s n h; omega
  | succ f ih =>
    intro s n h
    rw [repAny_succ stop f, repAny_succ stop (f + 1)]
    have h1 : (if n > 0 then skip s else s).length ≤ s.length := by
      split
      · exact skip_len _
      · exact Nat.le_refl _
    generalize (if n > 0 then skip s else s) = s1 at h1
    cases stop s1 with
    | true => rfl
    | false =>
      simp only [Bool.false_eq_true, ↓reduceIte]
      have h2 := skip_len s1
      cases hsk : skip s1 with
      | nil => rfl
      | cons c r =>
        rw [hsk] at h2
        simp only [List.length_cons] at h2
        exact ih r (n + 1) (by omega)

theorem repAny_fuel_add (stop : Str → Bool) (s : Str) (n k : Nat) :
    repAny stop (s.length + 1) s n = repAny stop (s.length + 1 + k) s n := by
  induction k with
  | zero => rfl
  | succ k ih => rw [ih, ← Nat.add_assoc]; exact repAny_fuel_succ stop _ s n (by omega)

theorem pTest_len {s r : Str} {t : PT} (h : pTest s = some (t, r)) : r.length ≤ s.length := by
  unfold pTest at h
  generalize hrep : repAny _ (s.length + 1) s 0 = res at h
  obtain ⟨r0, n⟩ := res
  simp only at h
  split at h
  · simp at h
  · simp only [Option.some.injEq, Prod.mk.injEq] at h
    obtain ⟨_, rfl⟩ := h
    exact (repAny_len _ _ _ _ _ _ hrep).1

theorem pCmd_len {s r : Str} {t : PT} (h : pCmd s = some (t, r)) : r.length < s.length := by
  unfold pCmd at h
  split at h
  · simp at h
  · generalize hrep : repAny atNewline (s.length + 1) (skip s) 0 = res at h
    obtain ⟨r0, n⟩ := res
    obtain ⟨h1, _, h3⟩ := repAny_len _ _ _ _ _ _ hrep
    have hs := skip_len s
    simp only at h
    split at h
    · rename_i r' hr'
      simp only [Option.some.injEq, Prod.mk.injEq] at h
      obtain ⟨_, rfl⟩ := h
      have := pNewline_len hr'
      have := skip_len r0
      omega
    · split at h
      · rename_i hn
        simp only [Option.some.injEq, Prod.mk.injEq] at h
        obtain ⟨_, rfl⟩ := h
        have := h3 hn.1
        simp only [List.length_nil]
        omega
      · simp at h

/-- a head `KW ~ TEST ~ (DUMMY | NEWLINE)` consumes at least what its keyword consumes -/
theorem pHead_len (rule : String) (kw dum : Str → Option Str)
    (hkw : ∀ x y, kw x = some y → y.length + 3 ≤ x.length) (hdum : ∀ x y, dum x = some y → y.length ≤ x.length)
    {s r : Str} {h : PT} (hh : pHead rule kw dum s = some (h, r)) : r.length + 3 ≤ s.length := by
  unfold pHead at hh
  split at hh
  · simp at hh
  · rename_i r1 h1
    split at hh
    · simp at hh
    · rename_i t r2 h2
      have := hkw _ _ h1
      have := pTest_len h2
      have := skip_len r1
      have := skip_len r2
      simp only at hh
      split at hh
      · rename_i r4 h4
        simp only [Option.some.injEq, Prod.mk.injEq] at hh
        obtain ⟨_, rfl⟩ := hh
        have := hdum _ _ h4
        omega
      · split at hh
        · rename_i r4 h4
          simp only [Option.some.injEq, Prod.mk.injEq] at hh
          obtain ⟨_, rfl⟩ := hh
          have := pNewline_len h4
          omega
        · simp at hh

theorem pForVar_len {s r : Str} {t : PT} (h : pForVar s = some (t, r)) : r.length ≤ s.length := by
  unfold pForVar at h
  split at h
  · rename_i c cs
    split at h
    · simp only [Option.some.injEq, Prod.mk.injEq] at h
      obtain ⟨_, rfl⟩ := h
      have := (List.dropWhile_suffix (l := cs) (fun x => isAlphaA x || isDigitA x || x = '_')).length_le
      simp only [List.length_cons]
      omega
    · simp at h
  · simp at h

theorem pForHead_len {s r : Str} {h : PT} (hh : pForHead s = some (h, r)) : r.length + 3 ≤ s.length := by
  unfold pForHead at hh
  split at hh
  · simp at hh
  · rename_i r0 h0
    have := kw_len3 (lit := "for ".toList) (by decide +kernel) h0
    have := skip_len r0
    simp only at hh
    split at hh
    · simp at hh
    · rename_i v r1 h1
      have := pForVar_len h1
      have := skip_len r1
      split at hh
      · simp at hh
      · rename_i r2 h2
        have := pLit_len h2
        have := skip_len r2
        split at hh
        · simp at hh
        · rename_i t r3 h3
          have := pTest_len h3
          have := skip_len r3
          split at hh
          · simp at hh
          · rename_i r5 h5
            simp only [Option.some.injEq, Prod.mk.injEq] at hh
            obtain ⟨_, rfl⟩ := hh
            have : r5.length ≤ (skip r3).length := by
              split at h5
              · rename_i x hx
                simp only [Option.some.injEq] at h5
                subst h5
                exact dummy_len _ hx
              · exact Nat.le_of_lt (pNewline_len h5)
            omega

/-! ### how much text the fuelled parsers consume -/

/-- a block head consumes at least three characters (its keyword has as many: `kw_len3`); they pay, at two units of fuel each,
for the six units a nesting level costs in `Stab` -/
def HeadOk (head : Str → Option (PT × Str)) : Prop := ∀ s h r, head s = some (h, r) → r.length + 3 ≤ s.length

theorem headOk_if : HeadOk (pHead "IF_HEAD" kwIf dummyThen) :=
  fun _ _ _ hh => pHead_len _ _ _ (fun _ _ => kw_len3 (lit := "if ".toList) (by decide +kernel)) (fun _ _ => dummy_len _) hh

theorem headOk_elseif : HeadOk (pHead "IF_ELSEIF_HEAD" kwElseIf dummyThen) :=
  fun _ _ _ hh => pHead_len _ _ _ (fun _ _ => kw_len3 (lit := "else if ".toList) (by decide +kernel)) (fun _ _ => dummy_len _) hh

theorem headOk_while : HeadOk (pHead "WHILE_HEAD" kwWhile dummyDo) :=
  fun _ _ _ hh => pHead_len _ _ _ (fun _ _ => kw_len3 (lit := "while ".toList) (by decide +kernel)) (fun _ _ => dummy_len _) hh

theorem headOk_for : HeadOk pForHead := fun _ _ _ hh => pForHead_len hh

/-- no parser of the mutual block lengthens the text; the block constructs are strictly shorter afterwards -/
structure LenInv (f : Nat) : Prop where
  items : ∀ s, (pBodyItems f s).2.length ≤ s.length
  body : ∀ s b r, pBody f s = some (b, r) → r.length ≤ s.length
  branch : ∀ rule head s b r, HeadOk head → pBranch f rule head s = some (b, r) → r.length + 3 ≤ s.length
  elifs : ∀ s, (pElseIfs f s).2.length ≤ s.length
  pif : ∀ s t r, pIf f s = some (t, r) → r.length < s.length
  pwhile : ∀ s t r, pWhile f s = some (t, r) → r.length < s.length
  pfor : ∀ s t r, pFor f s = some (t, r) → r.length < s.length

theorem lenInv_zero : LenInv 0 := by
  refine ⟨?_, ?_, ?_, ?_, ?_, ?_, ?_⟩ <;> intros <;> simp_all [pBodyItems, pBody, pBranch, pElseIfs, pIf, pWhile, pFor]

theorem pItemB_len {f : Nat} (h : LenInv f) {s r : Str} {t : PT} (hi : pItemB f s = some (t, r)) :
    r.length < s.length := by
  unfold pItemB at hi
  split at hi
  · rename_i x hx
    simp only [Option.some.injEq] at hi
    subst hi
    exact pCmd_len hx
  · split at hi
    · rename_i x hx
      simp only [Option.some.injEq] at hi
      subst hi
      exact h.pif _ _ _ hx
    · split at hi
      · rename_i x hx
        simp only [Option.some.injEq] at hi
        subst hi
        exact h.pwhile _ _ _ hx
      · exact h.pfor _ _ _ hi

theorem pItemT_len {f : Nat} (h : LenInv f) {s r : Str} {t : PT} (hi : pItemT f s = some (t, r)) :
    r.length < s.length := by
  unfold pItemT at hi
  split at hi
  · rename_i x hx
    simp only [Option.some.injEq] at hi
    subst hi
    exact h.pif _ _ _ hx
  · split at hi
    · rename_i x hx
      simp only [Option.some.injEq] at hi
      subst hi
      exact h.pfor _ _ _ hx
    · split at hi
      · rename_i x hx
        simp only [Option.some.injEq] at hi
        subst hi
        exact h.pwhile _ _ _ hx
      · exact pCmd_len hi

theorem ifTail_len (body : Str → Option (PT × Str)) (hbody : ∀ s b r, body s = some (b, r) → r.length ≤ s.length)
    (s : Str) (b1 : PT) (bs : List PT) (r2 : Str) (t : PT) (r : Str) (h : ifTail body s b1 bs r2 = some (t, r)) :
    r.length < r2.length := by
  unfold ifTail at h
  simp only at h
  split at h
  · simp at h
  · rename_i r4 h4
    simp only [Option.some.injEq, Prod.mk.injEq] at h
    obtain ⟨_, rfl⟩ := h
    have h5 := kwFi_len h4
    revert h5
    split
    · intro h5; simp only at h5; have := skip_len r2; omega
    · rename_i re hre
      split
      · intro h5; simp only at h5; have := skip_len r2; omega
      · rename_i b rb hb
        intro h5
        simp only at h5
        have := hbody _ _ _ hb
        have := kwElse_len hre
        have := skip_len r2
        have := skip_len re
        have := skip_len rb
        omega

theorem loopOf_len (rule : String) (head body : Str → Option (PT × Str)) (hh : HeadOk head)
    (hbody : ∀ s b r, body s = some (b, r) → r.length ≤ s.length) (s : Str) (t : PT) (r : Str)
    (hi : loopOf rule head body s = some (t, r)) : r.length < s.length := by
  unfold loopOf at hi
  split at hi
  · simp at hi
  · rename_i hd r1 h1
    split at hi
    · simp at hi
    · rename_i b r2 h2
      split at hi
      · simp at hi
      · rename_i r3 h3
        simp only [Option.some.injEq, Prod.mk.injEq] at hi
        obtain ⟨_, rfl⟩ := hi
        have := hh _ _ _ h1
        have := hbody _ _ _ h2
        have := kwDone_len h3
        have := skip_len s
        have := skip_len r1
        have := skip_len r2
        omega

theorem lenInv_succ {f : Nat} (h : LenInv f) : LenInv (f + 1) where
  items := fun s => by
    rw [pBodyItems_succ]
    cases hi : pItemB f s with
    | none => simp
    | some p =>
      obtain ⟨t, r⟩ := p
      have h1 := pItemB_len h hi
      have h2 := h.items (skip r)
      have h3 := skip_len r
      simp only
      split
      · simp only; omega
      · simp only; omega
  body := fun s b r hb => by
    rw [pBody_succ] at hb
    split at hb
    · simp at hb
    · simp only [Option.some.injEq, Prod.mk.injEq] at hb
      obtain ⟨_, rfl⟩ := hb
      exact h.items s
  branch := fun rule head s b r hh hb => by
    rw [pBranch_succ] at hb
    split at hb
    · simp at hb
    · rename_i hd r1 h1
      split at hb
      · simp at hb
      · rename_i bd r2 h2
        simp only [Option.some.injEq, Prod.mk.injEq] at hb
        obtain ⟨_, rfl⟩ := hb
        have := hh _ _ _ h1
        have := h.body _ _ _ h2
        have := skip_len r1
        omega
  elifs := fun s => by
    rw [pElseIfs_succ]
    split
    · simp
    · rename_i b r hb
      have := h.branch _ _ _ _ _ headOk_elseif hb
      have := h.elifs r
      have := skip_len s
      simp only
      omega
  pif := fun s t r hi => by
    rw [pIf_succ] at hi
    split at hi
    · simp at hi
    · rename_i b1 r1 hb
      have := h.branch _ _ _ _ _ headOk_if hb
      have := h.elifs r1
      have := ifTail_len _ h.body _ _ _ _ _ _ hi
      have := skip_len s
      omega
  pwhile := fun s t r hi => loopOf_len _ _ _ headOk_while h.body s t r (pWhile_succ f s ▸ hi)
  pfor := fun s t r hi => loopOf_len _ _ _ headOk_for h.body s t r (pFor_succ f s ▸ hi)

theorem lenInv (f : Nat) : LenInv f := by
  induction f with
  | zero => exact lenInv_zero
  | succ f ih => exact lenInv_succ ih

/-! ### one more unit of fuel changes nothing -/

/-- at fuel `f`, on every text short enough for `f` (twice its length plus a constant per parser), one more unit of fuel
gives the same result.  The constants: `IF_*_BR` 1; `EXP_IF`, `EXP_WHILE`, `EXP_FOR`, `IF_ELSEIF_BR*` 2; the items of
`EXP_BODY` 3; `EXP_BODY` 4.  (A parser calls the others at one unit less on the same text, which the order of the constants
pays for, or on a text at least three characters shorter after a head, which pays six units.) -/
structure Stab (f : Nat) : Prop where
  items : ∀ s, 2 * s.length + 3 ≤ f → pBodyItems f s = pBodyItems (f + 1) s
  body : ∀ s, 2 * s.length + 4 ≤ f → pBody f s = pBody (f + 1) s
  branch : ∀ rule head s, HeadOk head → 2 * s.length + 1 ≤ f → pBranch f rule head s = pBranch (f + 1) rule head s
  elifs : ∀ s, 2 * s.length + 2 ≤ f → pElseIfs f s = pElseIfs (f + 1) s
  pif : ∀ s, 2 * s.length + 2 ≤ f → pIf f s = pIf (f + 1) s
  pwhile : ∀ s, 2 * s.length + 2 ≤ f → pWhile f s = pWhile (f + 1) s
  pfor : ∀ s, 2 * s.length + 2 ≤ f → pFor f s = pFor (f + 1) s

theorem stab_zero : Stab 0 := by
  refine ⟨?_, ?_, ?_, ?_, ?_, ?_, ?_⟩ <;> intros <;> omega

theorem stab_item {f : Nat} (h : Stab f) (s : Str) (hs : 2 * s.length + 2 ≤ f) :
    pItemB f s = pItemB (f + 1) s ∧ pItemT f s = pItemT (f + 1) s := by
  unfold pItemB pItemT
  rw [← h.pif s hs, ← h.pwhile s hs, ← h.pfor s hs]
  exact ⟨rfl, rfl⟩

theorem ifTail_congr (body body' : Str → Option (PT × Str)) (s : Str) (b1 : PT) (bs : List PT) (r2 : Str)
    (hb : ∀ re, kwElse (skip r2) = some re → body (skip re) = body' (skip re)) :
    ifTail body s b1 bs r2 = ifTail body' s b1 bs r2 := by
  unfold ifTail
  simp only
  cases he : kwElse (skip r2) with
  | none => rfl
  | some re =>
    simp only
    rw [hb re he]

theorem loopOf_congr (body body' : Str → Option (PT × Str)) (rule : String) (head : Str → Option (PT × Str)) (s : Str)
    (hb : ∀ hd r, head (skip s) = some (hd, r) → body (skip r) = body' (skip r)) :
    loopOf rule head body s = loopOf rule head body' s := by
  unfold loopOf
  cases h1 : head (skip s) with
  | none => rfl
  | some p =>
    obtain ⟨hd, r⟩ := p
    simp only
    rw [hb hd r h1]

theorem stab_loop_body {f : Nat} (h : Stab f) (head : Str → Option (PT × Str)) (hh : HeadOk head) (s : Str)
    (hs : 2 * s.length + 2 ≤ f + 1) (hd : PT) (r : Str) (h1 : head (skip s) = some (hd, r)) :
    pBody f (skip r) = pBody (f + 1) (skip r) := by
  have := hh _ _ _ h1
  have := skip_len s
  have := skip_len r
  exact h.body (skip r) (by omega)

theorem stab_succ {f : Nat} (h : Stab f) : Stab (f + 1) where
  items := fun s hs => by
    rw [pBodyItems_succ f, pBodyItems_succ (f + 1), ← (stab_item h s (by omega)).1]
    cases hi : pItemB f s with
    | none => rfl
    | some p =>
      obtain ⟨t, r⟩ := p
      have := pItemB_len (lenInv f) hi
      have := skip_len r
      simp only
      rw [← h.items (skip r) (by omega)]
  body := fun s hs => by
    rw [pBody_succ f, pBody_succ (f + 1), ← h.items s (by omega)]
  branch := fun rule head s hh hs => by
    rw [pBranch_succ f, pBranch_succ (f + 1)]
    cases h1 : head s with
    | none => rfl
    | some p =>
      obtain ⟨hd, r⟩ := p
      have := hh _ _ _ h1
      have := skip_len r
      simp only
      rw [← h.body (skip r) (by omega)]
  elifs := fun s hs => by
    have := skip_len s
    rw [pElseIfs_succ f, pElseIfs_succ (f + 1), ← h.branch _ _ (skip s) headOk_elseif (by omega)]
    cases hb : pBranch f "IF_ELSEIF_BR" (pHead "IF_ELSEIF_HEAD" kwElseIf dummyThen) (skip s) with
    | none => rfl
    | some p =>
      obtain ⟨b, r⟩ := p
      have := (lenInv f).branch _ _ _ _ _ headOk_elseif hb
      simp only
      rw [← h.elifs r (by omega)]
  pif := fun s hs => by
    have := skip_len s
    rw [pIf_succ f, pIf_succ (f + 1), ← h.branch _ _ (skip s) headOk_if (by omega)]
    cases hb : pBranch f "IF_IF_BR" (pHead "IF_HEAD" kwIf dummyThen) (skip s) with
    | none => rfl
    | some p =>
      obtain ⟨b1, r1⟩ := p
      have := (lenInv f).branch _ _ _ _ _ headOk_if hb
      simp only
      rw [← h.elifs r1 (by omega)]
      have := (lenInv f).elifs r1
      refine ifTail_congr _ _ _ _ _ _ (fun re hre => ?_)
      have := kwElse_len hre
      have := skip_len (pElseIfs f r1).2
      have := skip_len re
      exact h.body (skip re) (by omega)
  pwhile := fun s hs => by
    rw [pWhile_succ f, pWhile_succ (f + 1)]
    exact loopOf_congr _ _ _ _ _ (stab_loop_body h _ headOk_while s hs)
  pfor := fun s hs => by
    rw [pFor_succ f, pFor_succ (f + 1)]
    exact loopOf_congr _ _ _ _ _ (stab_loop_body h _ headOk_for s hs)

theorem stab (f : Nat) : Stab f := by
  induction f with
  | zero => exact stab_zero
  | succ f ih => exact stab_succ ih

/-! ### the top rule -/

/-- from fuel `2 * |t| + 3` on, one more unit of fuel does not change what the top rule `EXP` yields -/
theorem pTop_fuel_succ : ∀ (f : Nat) (t : Str), 2 * t.length + 3 ≤ f → pTop f t = pTop (f + 1) t := by
  intro f
  induction f with
  | zero => intro t h; omega
  | succ f ih =>
    intro t h
    rw [pTop_succ f, pTop_succ (f + 1), ← (stab_item (stab f) t (by omega)).2]
    cases hi : pItemT f t with
    | none => rfl
    | some p =>
      obtain ⟨x, r⟩ := p
      have := pItemT_len (lenInv f) hi
      have := skip_len r
      simp only
      rw [← ih (skip r) (by omega)]

theorem pTop_fuel_add (t : Str) (f : Nat) (h : 2 * t.length + 4 ≤ f) (k : Nat) : pTop f t = pTop (f + k) t := by
  induction k with
  | zero => rfl
  | succ k ih => rw [ih, ← Nat.add_assoc]; exact pTop_fuel_succ (f + k) t (by omega)

theorem pTop_fuel_mono (t : Str) (f g : Nat) (h : 2 * t.length + 4 ≤ f) (hg : f ≤ g) : pTop f t = pTop g t := by
  obtain ⟨k, rfl⟩ : ∃ k, g = f + k := ⟨g - f, by omega⟩
  exact pTop_fuel_add t f h k

/-! non-vacuity: fuel does matter below the bound (a nested script needs 8 units; with 7 the model's `pTop` silently
yields nothing), and at the driver's fuel the text is parsed; `parseLines` both accepts and rejects -/
example : (pTop 7 "if a\nwhile b\nc\ndone\nfi\nd\n".toList).1.length = 0 ∧
    (pTop 8 "if a\nwhile b\nc\ndone\nfi\nd\n".toList).1.length = 2 ∧
    (pTop (parseFuel "if a\nwhile b\nc\ndone\nfi\nd\n".toList) "if a\nwhile b\nc\ndone\nfi\nd\n".toList).1.length = 2 := by
  lit_lists
  decide +kernel
example : (parseLines "if a\nwhile b\nc\ndone\nfi\nd\n".toList).isSome = true := by
  lit_lists
  decide +kernel
example : (parseLines "if a\nb\n".toList).isSome = false := by
  lit_lists
  decide +kernel

end Cicada.C14
