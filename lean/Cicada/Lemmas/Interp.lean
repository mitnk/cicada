import Cicada.Spec.C14
/-!
# What the refinement of the script interpreter is stated with (lemmas for C14)

Fuel monotonicity of the structured semantics; the relations `RStmt` / `RBlock` / `RArms` between an AST of `Spec/C14.lean` and
a pair tree, which constrain only what the interpreter looks at (rule names, the trimmed texts of CMD / TEST / FOR_VAR pairs,
non-blank texts of block pairs).  The refinement is proved in `Lemmas/InterpBlank.lean` for the relations with blank pairs
(`GoodB`); `Good` is its reading for the strict relations, the case `B := False`.
-/
namespace Cicada.C14
open Cicada Cicada.Locust

theorem bind_ok {α β} {o : Outcome α} {k : α → Outcome β} {y : β} (h : o.bind k = .ok y) :
    ∃ x, o = .ok x ∧ k x = .ok y := by
  cases o with
  | ok a => exact ⟨a, rfl, h⟩
  | err _ => simp [Outcome.bind] at h
  | panic _ => simp [Outcome.bind] at h
  | diverge _ => simp [Outcome.bind] at h

theorem bind_mono {α β} {o o' : Outcome α} {k k' : α → Outcome β} {x : β} (h : o.bind k = .ok x)
    (ho : ∀ y, o = .ok y → o' = .ok y) (hk : ∀ y, k y = .ok x → k' y = .ok x) : o'.bind k' = .ok x := by
  obtain ⟨y, e, hy⟩ := bind_ok h
  rw [ho y e]
  exact hk y hy

theorem ite_mono {α} {c : Prop} [Decidable c] {a a' b b' : Outcome α} {x : α} (h : (if c then a else b) = .ok x)
    (ha : a = .ok x → a' = .ok x) (hb : b = .ok x → b' = .ok x) : (if c then a' else b') = .ok x := by
  by_cases hc : c
  · rw [if_pos hc] at h ⊢; exact ha h
  · rw [if_neg hc] at h ⊢; exact hb h

/-- one more unit of fuel never changes a result of the reference semantics -/
theorem sem_mono_step {σ} (sem : Sem σ) : ∀ f : Nat,
    (∀ b inLoop st x, semBlock sem f b inLoop st = .ok x → semBlock sem (f + 1) b inLoop st = .ok x) ∧
    (∀ arms els inLoop st x, semArms sem f arms els inLoop st = .ok x → semArms sem (f + 1) arms els inLoop st = .ok x) ∧
    (∀ v body ws st x, semFor sem f v body ws st = .ok x → semFor sem (f + 1) v body ws st = .ok x) ∧
    (∀ t body st x, semWhile sem f t body st = .ok x → semWhile sem (f + 1) t body st = .ok x) := by
  intro f
  induction f with
  | zero =>
    refine ⟨?_, ?_, ?_, ?_⟩ <;> intros <;> simp_all [semBlock, semArms, semFor, semWhile]
  | succ f ih =>
    obtain ⟨ihB, ihA, ihF, ihW⟩ := ih
    refine ⟨?_, ?_, ?_, ?_⟩
    · intro b inLoop st x h
      cases b with
      | nil => simpa [semBlock] using h
      | cons s rest =>
        cases s with
        | cmd l => simp only [semBlock] at h ⊢; exact ihB _ _ _ _ h
        | brk => simp only [semBlock] at h ⊢; exact ite_mono h id (ihB _ _ _ _)
        | cont => simp only [semBlock] at h ⊢; exact ite_mono h id (ihB _ _ _ _)
        | ite arms els =>
          simp only [semBlock] at h ⊢
          exact bind_mono h (ihA _ _ _ _) (fun _ hy => ite_mono hy (ihB _ _ _ _) id)
        | «for» v init body =>
          simp only [semBlock] at h ⊢
          exact bind_mono h (ihF _ _ _ _) (fun _ => ihB _ _ _ _)
        | whl t body =>
          simp only [semBlock] at h ⊢
          exact bind_mono h (ihW _ _ _) (fun _ => ihB _ _ _ _)
    · intro arms els inLoop st x h
      cases arms with
      | nil => simp only [semArms] at h ⊢; exact ihB _ _ _ _ h
      | cons t body rest => simp only [semArms] at h ⊢; exact ite_mono h (ihB _ _ _ _) (ihA _ _ _ _ _)
    · intro v body ws st x h
      cases ws with
      | nil => simpa [semFor] using h
      | cons w ws =>
        simp only [semFor] at h ⊢
        exact bind_mono h (ihB _ _ _) (fun _ hy => ite_mono hy id (ihF _ _ _ _ _))
    · intro t body st x h
      simp only [semWhile] at h ⊢
      exact ite_mono h (fun h => bind_mono h (ihB _ _ _) (fun _ hy => ite_mono hy id (ihW _ _ _ _))) id

theorem sem_mono {σ} (sem : Sem σ) (f g : Nat) (hfg : f ≤ g) :
    (∀ b inLoop st x, semBlock sem f b inLoop st = .ok x → semBlock sem g b inLoop st = .ok x) ∧
    (∀ arms els inLoop st x, semArms sem f arms els inLoop st = .ok x → semArms sem g arms els inLoop st = .ok x) ∧
    (∀ v body ws st x, semFor sem f v body ws st = .ok x → semFor sem g v body ws st = .ok x) ∧
    (∀ t body st x, semWhile sem f t body st = .ok x → semWhile sem g t body st = .ok x) := by
  induction hfg with
  | refl => exact ⟨fun _ _ _ _ h => h, fun _ _ _ _ _ h => h, fun _ _ _ _ _ h => h, fun _ _ _ _ h => h⟩
  | step _ ih =>
    obtain ⟨a, b, c, d⟩ := ih
    obtain ⟨a', b', c', d'⟩ := sem_mono_step sem _
    exact ⟨fun _ _ _ _ h => a' _ _ _ _ (a _ _ _ _ h), fun _ _ _ _ _ h => b' _ _ _ _ _ (b _ _ _ _ _ h),
           fun _ _ _ _ _ h => c' _ _ _ _ _ (c _ _ _ _ _ h), fun _ _ _ _ h => d' _ _ _ _ (d _ _ _ _ h)⟩


theorem semBlock_mono {σ} {sem : Sem σ} {g g' : Nat} (hg : g ≤ g') {b : Block} {inLoop : Bool} {st : σ} {x : σ × Flag}
    (h : semBlock sem g b inLoop st = .ok x) : semBlock sem g' b inLoop st = .ok x :=
  (sem_mono sem g g' hg).1 _ _ _ _ h

theorem semArms_mono {σ} {sem : Sem σ} {g g' : Nat} (hg : g ≤ g') {arms : Arms} {els : Block} {inLoop : Bool} {st : σ}
    {x : σ × Flag} (h : semArms sem g arms els inLoop st = .ok x) : semArms sem g' arms els inLoop st = .ok x :=
  (sem_mono sem g g' hg).2.1 _ _ _ _ _ h

theorem semFor_mono {σ} {sem : Sem σ} {g g' : Nat} (hg : g ≤ g') {v : Str} {body : Block} {ws : List Str} {st x : σ}
    (h : semFor sem g v body ws st = .ok x) : semFor sem g' v body ws st = .ok x :=
  (sem_mono sem g g' hg).2.2.1 _ _ _ _ _ h

theorem semWhile_mono {σ} {sem : Sem σ} {g g' : Nat} (hg : g ≤ g') {t : Str} {body : Block} {st x : σ}
    (h : semWhile sem g t body st = .ok x) : semWhile sem g' t body st = .ok x :=
  (sem_mono sem g g' hg).2.2.2 _ _ _ _ h

/-- a command line as the interpreter must see it: not blank, not a loop-control word, untouched by positional expansion -/
def PlainLine (args : List Str) (l : Str) : Prop :=
  l ≠ [] ∧ l ≠ "continue".toList ∧ l ≠ "break".toList ∧ expandArgs args l = l

mutual
inductive RStmt (args : List Str) : Stmt → PT → Prop
  | cmd {l text : Str} : trim text = l → PlainLine args l → RStmt args (.cmd l) (.node "CMD" text [])
  | brk {text : Str} : trim text = "break".toList → RStmt args .brk (.node "CMD" text [])
  | cont {text : Str} : trim text = "continue".toList → RStmt args .cont (.node "CMD" text [])
  | ite {arms : Arms} {els : Block} {text : Str} {brs : List PT} : trim text ≠ [] → RArms args arms els brs →
      RStmt args (.ite arms els) (.node "EXP_IF" text brs)
  | «for» {v init : Str} {body : Block} {text t1 t2 vt tt t3 : Str} {kids : List PT} :
      trim text ≠ [] → trim vt = v → trim tt = init → RBlock args body kids →
      RStmt args (.for v init body)
        (.node "EXP_FOR" text [.node "FOR_HEAD" t1 [.node "FOR_INIT" t2 [.node "FOR_VAR" vt [], .node "TEST" tt []]], .node "EXP_BODY" t3 kids])
  | whl {t : Str} {body : Block} {text t1 tt t3 : Str} {kids : List PT} :
      trim text ≠ [] → trim tt = t → expandArgs args t = t → RBlock args body kids →
      RStmt args (.whl t body) (.node "EXP_WHILE" text [.node "WHILE_HEAD" t1 [.node "TEST" tt []], .node "EXP_BODY" t3 kids])
inductive RBlock (args : List Str) : Block → List PT → Prop
  | nil : RBlock args .nil []
  | cons {s : Stmt} {p : PT} {rest : Block} {ps : List PT} : RStmt args s p → RBlock args rest ps → RBlock args (.cons s rest) (p :: ps)
inductive RArms (args : List Str) : Arms → Block → List PT → Prop
  | done : RArms args .nil .nil []
  | els {els : Block} {t1 t2 t3 : Str} {kids : List PT} : RBlock args els kids →
      RArms args .nil els [.node "IF_ELSE_BR" t1 [.node "KW_ELSE" t2 [], .node "EXP_BODY" t3 kids]]
  | arm {t : Str} {body : Block} {rest : Arms} {els : Block} {r hr : String} {x y tt z : Str} {kids brs : List PT} :
      (hr = "IF_HEAD" ∨ hr = "IF_ELSEIF_HEAD") → trim tt = t → expandArgs args t = t → RBlock args body kids → RArms args rest els brs →
      RArms args (.cons t body rest) els (.node r x [.node hr y [.node "TEST" tt []], .node "EXP_BODY" z kids] :: brs)
end

/-- the interpreter's two flags against the semantics' flag -/
def FlagRel {σ} (r : RunRes σ) (fl : Flag) : Prop :=
  (fl = .normal ∧ r.cont = false ∧ r.brk = false) ∨ (fl = .cont ∧ r.cont = true ∧ r.brk = false) ∨
  (fl = .brk ∧ r.cont = false ∧ r.brk = true)

/-- what the refinement says at one fuel level of the interpreter (`GoodB False`) -/
structure Good {σ} (sem : Sem σ) (args : List Str) (f : Nat) : Prop where
  blk : ∀ b ts inLoop st last r, RBlock args b ts → runExp sem args f ts inLoop st last = .ok r →
    ∃ g fl, semBlock sem g b inLoop st = .ok (r.st, fl) ∧ FlagRel r fl
  arms : ∀ arms els brs inLoop st last r, RArms args arms els brs → runIf sem args f brs inLoop st last = .ok r →
    ∃ g fl, semArms sem g arms els inLoop st = .ok (r.st, fl) ∧ FlagRel r fl
  loop : ∀ v body kids ws st last r, RBlock args body kids → forLoop sem args f v kids ws st last = .ok r →
    ∃ g, semFor sem g v body ws st = .ok r.st
  whl : ∀ t body text t1 tt t3 kids st last r, trim tt = t → expandArgs args t = t → RBlock args body kids →
    runWhile sem args f (.node "EXP_WHILE" text [.node "WHILE_HEAD" t1 [.node "TEST" tt []], .node "EXP_BODY" t3 kids]) st last = .ok r →
    ∃ g, semWhile sem g t body st = .ok r.st

theorem flagRel_plain {σ} (st : σ) (last : Option Int) : FlagRel ({ st := st, last := last } : RunRes σ) .normal :=
  Or.inl ⟨rfl, rfl, rfl⟩

theorem FlagRel.brk_iff {σ} {r : RunRes σ} {fl : Flag} (h : FlagRel r fl) : r.brk = true ↔ fl = .brk := by
  rcases h with ⟨rfl, _, hb⟩ | ⟨rfl, _, hb⟩ | ⟨rfl, _, hb⟩ <;> simp [hb]

/-- `run_exp_test_br` on a branch `HEAD(TEST) EXP_BODY`; `last'` is the status handed on, the same on both sides -/
theorem runBranch_test {σ} (sem : Sem σ) (args : List Str) (f : Nat) {hr : String}
    (hhr : hr = "IF_HEAD" ∨ hr = "IF_ELSEIF_HEAD" ∨ hr = "WHILE_HEAD") {r : String} {x y tt z t : Str} {kids : List PT}
    (htx : trim tt = t) (hex : expandArgs args t = t) (inLoop : Bool) (st : σ) (last : Option Int) :
    ∃ last', runBranch sem args (f + 1) (.node r x [.node hr y [.node "TEST" tt []], .node "EXP_BODY" z kids]) inLoop st last =
      if (sem.runLine st t).2 = some 0 then (runExp sem args f kids inLoop (sem.runLine st t).1 last').map (fun r => (r, true))
      else .ok ({ st := (sem.runLine st t).1, last := last' }, false) := by
  refine ⟨match (sem.runLine st t).2 with | some x => some x | none => last, ?_⟩
  rcases hhr with rfl | rfl | rfl
  all_goals
    simp [runBranch, PT.kids, PT.rule, List.find?, firstKid, PT.text, htx, hex]
    rfl

end Cicada.C14
