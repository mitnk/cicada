import Cicada.Lemmas.Kernel
/-!
# The child's side of `run_single_program`: what is open when the program is exec'd

Each phase of `childRun` is taken apart once and walked once, for any invariant that survives the child's operations (`ChildInv`).
-/
namespace Cicada.Pipeline
open Cicada.Kernel Cicada.Kernel.Table

theorem atExec_apply (t : Table) (x : Nat) : (t.atExec) x = match t x with
    | some e => if e.cx then none else some e
    | none => none := rfl

theorem atExec_none {t : Table} {x : Nat} (h : t x = none) : t.atExec x = none := by simp [atExec_apply, h]

theorem atExec_congr {t t' : Table} {x y : Nat} (h : t' x = t y) : t'.atExec x = t.atExec y := by simp [atExec_apply, h]

theorem atExec_none_of_cx {t : Table} {x : Nat} (h : ∀ e, t x = some e → e.cx = true) : t.atExec x = none := by
  rw [atExec_apply]
  cases he : t x with
  | none => rfl
  | some e => exact if_pos (h e he)

/-- as far as the descriptors from 3 on and outside `O` are concerned, `t` would exec like `t0`; the
descriptors in `O` are free in `t0` and not 0, 1, 2; and 0, 1, 2 are open in `t` -/
structure CleanUpTo (t0 t : Table) (O : List Nat) : Prop where
  same : ∀ x, 3 ≤ x → x ∉ O → t.atExec x = t0.atExec x
  free : ∀ x ∈ O, t0 x = none ∧ 3 ≤ x
  o0 : (t 0).isSome
  o1 : (t 1).isSome
  o2 : (t 2).isSome

theorem CleanUpTo.shrink {t0 t t' : Table} {O O' : List Nat} (h : CleanUpTo t0 t O)
    (hsub : ∀ x ∈ O', x ∈ O) (hclosed : ∀ x ∈ O, x ∉ O' → t' x = none)
    (hsame : ∀ x, 3 ≤ x → x ∉ O → t'.atExec x = t.atExec x)
    (h0 : (t' 0).isSome) (h1 : (t' 1).isSome) (h2 : (t' 2).isSome) : CleanUpTo t0 t' O' := by
  refine ⟨?_, fun x hx => h.free x (hsub x hx), h0, h1, h2⟩
  intro x hx3 hx
  by_cases hO : x ∈ O
  · rw [atExec_none (hclosed x hO hx), atExec_none (h.free x hO).1]
  · rw [hsame x hx3 hO, h.same x hx3 hO]

theorem CleanUpTo.congr {t0 t : Table} {O O' : List Nat} (h : CleanUpTo t0 t O) (hm : ∀ x, x ∈ O ↔ x ∈ O') :
    CleanUpTo t0 t O' :=
  h.shrink (fun x hx => (hm x).mpr hx) (fun x hx hn => absurd ((hm x).mp hx) hn) (fun _ _ _ => rfl) h.o0 h.o1 h.o2

theorem CleanUpTo.close {t0 t : Table} {c : Nat} {O : List Nat} (h : CleanUpTo t0 t (c :: O)) :
    CleanUpTo t0 (t.close c) O := by
  have hc3 : 3 ≤ c := (h.free c List.mem_cons_self).2
  have std : ∀ x, x < 3 → (t x).isSome → ((t.close c) x).isSome := fun x hx hs => by
    rw [close_apply, if_neg (by omega)]; exact hs
  refine h.shrink (fun x hx => List.mem_cons_of_mem _ hx) ?_ ?_ (std 0 (by omega) h.o0) (std 1 (by omega) h.o1)
    (std 2 (by omega) h.o2)
  · intro x hx hn
    rcases List.mem_cons.mp hx with rfl | hx
    · exact if_pos rfl
    · exact absurd hx hn
  · intro x _ hx
    exact atExec_congr (if_neg (fun e : x = c => hx (e ▸ List.mem_cons_self)))

theorem CleanUpTo.dup2Std {t0 t : Table} {O : List Nat} (h : CleanUpTo t0 t O) (src dst : Nat) (hd : dst < 3) :
    CleanUpTo t0 (t.dup2 src dst) O := by
  rcases dup2_cases t src dst with he | ⟨e, hv⟩
  · rw [he]; exact h
  · have some_of : ∀ x, (t x).isSome → (t.dup2 src dst x).isSome := by
      intro x hx
      rw [hv]
      split
      · rfl
      · exact hx
    refine ⟨?_, h.free, some_of 0 h.o0, some_of 1 h.o1, some_of 2 h.o2⟩
    intro x hx3 hx
    rw [atExec_congr ((hv x).trans (if_neg (by omega)))]
    exact h.same x hx3 hx

/-- a temporary duplicate (closed again) or a file opened for a redirection (left open, close-on-exec) put onto 0 / 1 / 2 -/
theorem CleanUpTo.allocDup2 {t0 t t1 t' : Table} {O : List Nat} (h : CleanUpTo t0 t O) {lim fd dst : Nat} {e : Ent}
    (ha : t.alloc lim e = some (t1, fd)) (hd : dst < 3)
    (ht' : t' = (t1.dup2 fd dst).close fd ∨ e.cx = true ∧ t' = t1.dup2 fd dst) : CleanUpTo t0 t' O := by
  have hfd3 := alloc_ge3 h.o0 h.o1 h.o2 ha
  obtain ⟨hfree, rfl⟩ := alloc_spec ha
  have hval : ∀ x, x ≠ fd → t' x = if x = dst then some { e with cx := false } else t x := by
    intro x hx
    have : t' x = ((t.set fd e).dup2 fd dst) x := by
      rcases ht' with rfl | ⟨_, rfl⟩
      · exact if_neg hx
      · rfl
    rw [this, set_dup2_apply t e (by omega) hx]
  have std : ∀ x, x < 3 → (t x).isSome → (t' x).isSome := by
    intro x hx3 hx
    rw [hval x (by omega)]
    split
    · rfl
    · exact hx
  refine ⟨?_, h.free, std 0 (by omega) h.o0, std 1 (by omega) h.o1, std 2 (by omega) h.o2⟩
  intro x hx3 hx
  by_cases hxf : x = fd
  · -- the new descriptor itself: closed, or close-on-exec
    subst hxf
    rw [← h.same x hx3 hx, atExec_none hfree]
    rcases ht' with rfl | ⟨hcx, rfl⟩
    · exact atExec_none (if_pos rfl)
    · rw [atExec_apply, dup2_other _ _ _ _ (by omega), set_apply, if_pos rfl]
      exact if_pos hcx
  · rw [atExec_congr ((hval x hxf).trans (if_neg (by omega)))]
    exact h.same x hx3 hx

theorem dup_some {t t1 : Table} {lim src fd : Nat} (h : t.dup lim src = some (t1, fd)) :
    ∃ e, t src = some e ∧ t.alloc lim { e with cx := false } = some (t1, fd) := by
  unfold Table.dup at h
  cases hs : t src with
  | none => rw [hs] at h; cases h
  | some e => rw [hs] at h; exact ⟨e, rfl, h⟩

/-- `2>&1` copies descriptor `src = 1` onto `dst = 2`, `1>&2` the other way round -/
def DupOf (from_ to : Str) (src dst : Nat) : Prop :=
  (to = "&1".toList ∧ from_ = "2".toList) ∧ src = 1 ∧ dst = 2 ∨
  ¬ (to = "&1".toList ∧ from_ = "2".toList) ∧ (to = "&2".toList ∧ from_ = "1".toList) ∧ src = 2 ∧ dst = 1

theorem DupOf.dst_lt {from_ to : Str} {src dst : Nat} (h : DupOf from_ to src dst) : dst < 3 := by
  rcases h with ⟨_, _, rfl⟩ | ⟨_, _, _, rfl⟩ <;> omega

/-- what a successful step of the child's redirection loop has done; `file` leaves `outRed` / `errRed`, which differ
between its two sub-cases, open -/
inductive Stepped (cfg : Cfg) (capture : Bool) (s : RState) : Redir → RState → Prop
  /-- `2>&1` / `1>&2` on the last stage of a captured pipeline: ignored -/
  | ignored (r : Redir) : capture = true → Stepped cfg capture s r s
  /-- `2>&1` on a stage that is not the last: `dup2(1, 2)` -/
  | direct {from_ op to : Str} : to = "&1".toList ∧ from_ = "2".toList →
      Stepped cfg capture s (from_, op, to) { s with t := s.t.dup2 1 2 }
  /-- `dup(src)`, `dup2` the duplicate onto `dst`, close it -/
  | viaTemp {from_ op to : Str} {src dst fd : Nat} {e : Ent} {t1 : Table} : DupOf from_ to src dst → s.t src = some e →
      s.t.alloc cfg.lim { e with cx := false } = some (t1, fd) →
      Stepped cfg capture s (from_, op, to) { s with t := (t1.dup2 fd dst).close fd }
  /-- open the file and `dup2` it onto `dst` (1 for `from_ = "1"`, else 2); the original stays open, close-on-exec -/
  | file {from_ op to : Str} {dst fd : Nat} {t1 : Table} {s' : RState} :
      ¬ (to = "&1".toList ∧ from_ = "2".toList) → ¬ (to = "&2".toList ∧ from_ = "1".toList) → cfg.canWrite to = true →
      s.t.openFile cfg.lim to (if op = ">>".toList then 2 else 1) = some (t1, fd) →
      (from_ = "1".toList ∧ dst = 1 ∨ from_ ≠ "1".toList ∧ dst = 2) → s'.t = t1.dup2 fd dst →
      s'.opened = s.opened ++ [(to, if op = ">>".toList then 2 else 1)] → Stepped cfg capture s (from_, op, to) s'

theorem redirStep_stepped {cfg : Cfg} {notLast capture : Bool} {s s' : RState} {r : Redir}
    (hs : redirStep cfg notLast capture s r = some s') : Stepped cfg capture s r s' := by
  obtain ⟨from_, op, to⟩ := r
  by_cases h1 : to = "&1".toList ∧ from_ = "2".toList
  · simp only [redirStep, if_pos h1] at hs
    cases notLast with
    | true => cases hs; exact .direct h1
    | false =>
      cases capture with
      | true => cases hs; exact .ignored _ rfl
      | false =>
        cases hd : s.t.dup cfg.lim 1 with
        | none => simp [hd] at hs
        | some q =>
          obtain ⟨e, he, ha⟩ := dup_some hd
          simp only [hd] at hs
          cases hs
          exact .viaTemp (Or.inl ⟨h1, rfl, rfl⟩) he ha
  · by_cases h2 : to = "&2".toList ∧ from_ = "1".toList
    · simp only [redirStep, if_neg h1, if_pos h2] at hs
      split at hs
      · cases hd : s.t.dup cfg.lim 2 with
        | none => simp [hd] at hs
        | some q =>
          obtain ⟨e, he, ha⟩ := dup_some hd
          simp only [hd] at hs
          cases hs
          exact .viaTemp (Or.inr ⟨h1, h2, rfl, rfl⟩) he ha
      · rename_i hc
        cases hs
        exact .ignored _ (by cases capture <;> simp_all)
    · simp only [redirStep, if_neg h1, if_neg h2] at hs
      cases hw : cfg.canWrite to with
      | false => simp [hw] at hs
      | true =>
        simp only [hw, Bool.not_true, Bool.false_eq_true, ↓reduceIte] at hs
        cases ho : s.t.openFile cfg.lim to (if op = ">>".toList then 2 else 1) with
        | none => rw [ho] at hs; cases hs
        | some q =>
          simp only [ho] at hs
          by_cases hf : from_ = "1".toList
          · rw [if_pos hf] at hs
            cases hs
            exact .file h1 h2 hw ho (Or.inl ⟨hf, rfl⟩) rfl rfl
          · rw [if_neg hf] at hs
            cases hs
            exact .file h1 h2 hw ho (Or.inr ⟨hf, rfl⟩) rfl rfl

/-- what the parent holds open beyond its original table when it forks a stage -/
def heldAtFork (prev cur : Option Fds) (right : List Fds) (cap : Cap) (hs : Option Fds) : List Nat :=
  prevFds prev ++ (optFds cur ++ (fdsOf right ++ (capFds cap ++ optFds hs)))

theorem heldAtFork_eq (prev cur : Option Fds) (right : List Fds) (cap : Cap) (hs : Option Fds) :
    heldAtFork prev cur right cap hs = prevFds prev ++ fdsOf (cur.toList ++ right) ++ capFds cap ++ optFds hs := by
  cases cur <;> simp [heldAtFork, optFds, fdsOf]

def stepRight (right : List Fds) (t : Table) : Table := right.foldl closePair t
def stepCap (cur : Option Fds) (cap : Cap) (t : Table) : Table := if cur.isSome then closeOpt (closeOpt t cap.1) cap.2 else t
def stepPrev (prev : Option Fds) (t : Table) : Table := match prev with | some p => (t.dup2 p.1 0).close p.1 | none => t
def stepCur (cur : Option Fds) (t : Table) : Table := match cur with | some p => ((t.dup2 p.2 1).close p.2).close p.1 | none => t

theorem childPipes_eq (prev cur : Option Fds) (right : List Fds) (cap : Cap) (t : Table) :
    childPipes prev cur right cap t = stepCur cur (stepPrev prev (stepCap cur cap (stepRight right t))) := rfl

/-- the `<<<` part is stated as the very `match` `childStdin` unfolds to, hence `generalizing := false` -/
theorem childStdin_some {cfg : Cfg} {cmd : Command} {hs : Option Fds} {t t' : Table} (hr : childStdin cfg cmd hs t = some t') :
    ∃ t1, (cmd.isFrom = false ∧ t1 = t ∨
        cmd.isFrom = true ∧ ∃ t2 fd, t.openFile cfg.lim ((cmd.redirectFrom.map (fun (x : Tok) => x.2)).getD []) 0 = some (t2, fd) ∧
          t1 = (t2.dup2 fd 0).close fd) ∧
      t' = if cmd.isHere then (match (generalizing := false) hs with | some p => ((t1.close p.2).dup2 p.1 0).close p.1 | none => t1) else t1 := by
  unfold childStdin at hr
  simp only at hr
  split at hr
  · cases hr
  · rename_i t1 h1
    refine ⟨t1, ?_, (Option.some.inj hr).symm⟩
    cases hf : cmd.isFrom with
    | false =>
      rw [hf] at h1
      exact Or.inl ⟨rfl, (Option.some.inj h1).symm⟩
    | true =>
      simp only [hf, ↓reduceIte] at h1
      split at h1
      · cases h1
      · split at h1
        · cases h1
        · rename_i t2 fd ho
          exact Or.inr ⟨rfl, t2, fd, ho, (Option.some.inj h1).symm⟩

theorem childRun_cases {cfg : Cfg} {cmd : Command} {prev cur : Option Fds} {right : List Fds} {cap : Cap} {hs : Option Fds}
    {capture : Bool} {tf : Table} {ce : ChildEnd} {lg : List (Str × Nat)}
    (hrun : childRun cfg cmd prev cur right cap hs capture tf = (ce, lg)) :
    (∃ c, ce = .died c) ∨
    ∃ t1 s tfin, childStdin cfg cmd hs (childPipes prev cur right cap tf) = some t1 ∧
      redirLoop cfg cur.isSome capture { t := t1 } cmd.redirectsTo = (s, true) ∧
      tfin = (if cur.isNone ∧ capture then capBlock cap s.outRed s.errRed s.t else s.t) ∧
      (ce = .builtin cmd.argv tfin ∨ ce = .exec cmd.argv tfin.atExec ∨ ce = .notFound cmd.argv tfin) := by
  unfold childRun at hrun
  cases hst : childStdin cfg cmd hs (childPipes prev cur right cap tf) with
  | none =>
    rw [hst] at hrun
    exact Or.inl ⟨1, (Prod.mk.inj hrun).1.symm⟩
  | some t1 =>
    simp only [hst] at hrun
    cases hrl : redirLoop cfg cur.isSome capture { t := t1 } cmd.redirectsTo with
    | mk s ok =>
      rw [hrl] at hrun
      cases ok with
      | false => exact Or.inl ⟨1, (Prod.mk.inj hrun).1.symm⟩
      | true =>
        refine Or.inr ⟨t1, s, _, rfl, hrl, rfl, ?_⟩
        simp only at hrun
        -- so that `split` below meets the `isBuiltin` test and not this `if`
        generalize (if cur.isNone ∧ capture then capBlock cap s.outRed s.errRed s.t else s.t) = tfin at hrun ⊢
        rw [← (Prod.mk.inj hrun).1]
        split
        · exact Or.inl rfl
        · split
          · exact Or.inr (Or.inl rfl)
          · exact Or.inr (Or.inr rfl)

theorem candFd_cases (cfg : Cfg) (t : Table) (o e : Option Nat) (lg : List (Str × Nat)) (isOut : Bool) (op to : Str) :
    ((candFd cfg t o e lg isOut op to).1 = t ∧ (candFd cfg t o e lg isOut op to).2.1 = none) ∨
    ∃ en fd, t.alloc cfg.lim en = some ((candFd cfg t o e lg isOut op to).1, fd) ∧
      (candFd cfg t o e lg isOut op to).2.1 = some fd ∧
      (if isOut = true ∧ to = "&2".toList then (t (e.getD 2)).map (·.obj) = some en.obj
       else if isOut = false ∧ to = "&1".toList then (t (o.getD 1)).map (·.obj) = some en.obj
       else cfg.canWrite to = true ∧ en.obj = .file to (if op = ">>".toList then 2 else 1)) := by
  generalize hc : candFd cfg t o e lg isOut op to = c
  unfold candFd at hc
  simp only at hc
  have dupCase : ∀ src, (match t.dup cfg.lim src with | some (t1, fd) => (t1, some fd, lg) | none => (t, none, lg)) = c →
      (c.1 = t ∧ c.2.1 = none) ∨
      ∃ en fd, t.alloc cfg.lim en = some (c.1, fd) ∧ c.2.1 = some fd ∧ (t src).map (·.obj) = some en.obj := by
    intro src hc
    cases hd : t.dup cfg.lim src with
    | none => rw [hd] at hc; subst hc; exact Or.inl ⟨rfl, rfl⟩
    | some q =>
      obtain ⟨en, he, ha⟩ := dup_some hd
      rw [hd] at hc; subst hc
      exact Or.inr ⟨_, _, ha, rfl, by rw [he]; rfl⟩
  by_cases h1 : isOut = true ∧ to = "&2".toList
  · rw [if_pos h1] at hc
    simp only [if_pos h1]
    exact dupCase _ hc
  · rw [if_neg h1] at hc
    by_cases h2 : isOut = false ∧ to = "&1".toList
    · rw [if_pos (show (!isOut) = true ∧ to = "&1".toList from ⟨by rw [h2.1]; rfl, h2.2⟩)] at hc
      simp only [if_neg h1, if_pos h2]
      exact dupCase _ hc
    · rw [if_neg (fun h => h2 ⟨by simpa using h.1, h.2⟩)] at hc
      simp only [if_neg h1, if_neg h2]
      cases hw : cfg.canWrite to with
      | false => rw [hw] at hc; subst hc; exact Or.inl ⟨rfl, rfl⟩
      | true =>
        rw [hw, if_pos rfl] at hc
        cases ho : t.openFile cfg.lim to (if op = ">>".toList then 2 else 1) with
        | none => rw [ho] at hc; subst hc; exact Or.inl ⟨rfl, rfl⟩
        | some q => rw [ho] at hc; subst hc; exact Or.inr ⟨_, _, ho, rfl, rfl, rfl⟩

/-- An invariant of the child's table, indexed by the descriptors still to be closed, that survives what the child does
between `fork` and `exec`.  In `alloc`, an entry left open must be close-on-exec (else it would leak), and a close-on-exec
entry is a file: invariants that classify the flagged entries (`CxP` in Thm/C08nested) need that. -/
structure ChildInv (I : Table → List Nat → Prop) : Prop where
  congr : ∀ {t : Table} {O O' : List Nat}, I t O → (∀ x, x ∈ O ↔ x ∈ O') → I t O'
  close : ∀ {t : Table} {c : Nat} {O : List Nat}, I t (c :: O) → I (t.close c) O
  dup2 : ∀ {t : Table} {O : List Nat} (src dst : Nat), dst < 3 → I t O → I (t.dup2 src dst) O
  alloc : ∀ {t t1 t' : Table} {O : List Nat} {lim fd dst : Nat} {e : Ent}, I t O → t.alloc lim e = some (t1, fd) → dst < 3 →
    (e.cx = true → ∃ p m, e.obj = .file p m) →
    (t' = (t1.dup2 fd dst).close fd ∨ e.cx = true ∧ t' = t1.dup2 fd dst) → I t' O

theorem cleanUpTo_childInv (t0 : Table) : ChildInv (CleanUpTo t0) :=
  ⟨CleanUpTo.congr, CleanUpTo.close, fun src dst hd h => h.dup2Std src dst hd, fun h ha hd _ ht => h.allocDup2 ha hd ht⟩

section
variable {I : Table → List Nat → Prop} (hI : ChildInv I)
include hI

theorem capHalf_inv {t : Table} {O : List Nat} (p : Fds) (red : Bool) (dst : Nat) (hd : dst < 3) (h : I t (p.1 :: p.2 :: O)) :
    I ((if red then t.close p.1 else (t.close p.1).dup2 p.2 dst).close p.2) O := by
  cases red with
  | true => exact hI.close (hI.close h)
  | false => exact hI.close (hI.dup2 p.2 dst hd (hI.close h))

theorem capBlock_inv {t : Table} (cap : Cap) (outRed errRed : Bool) (h : I t (capFds cap)) :
    I (capBlock cap outRed errRed t) [] := by
  obtain ⟨a, b⟩ := cap
  cases a with
  | none =>
    cases b with
    | none => exact h
    | some q => exact capHalf_inv hI q errRed 2 (by omega) h
  | some p =>
    cases b with
    | none => exact capHalf_inv hI p outRed 1 (by omega) h
    | some q => exact capHalf_inv hI q errRed 2 (by omega) (capHalf_inv hI p outRed 1 (by omega) h)

theorem stepPrev_inv {t : Table} {O : List Nat} (prev : Option Fds) (h : I t (prevFds prev ++ O)) : I (stepPrev prev t) O := by
  cases prev with
  | none => exact h
  | some p => exact hI.close (hI.dup2 p.1 0 (by omega) h)

/-- `heldAtFork` lists the descriptors by role; each branch first reorders them (`congr`) into the order in which the child
closes them, so that every step closes the head of the list -/
theorem childPipes_inv {t : Table} (prev cur : Option Fds) (right : List Fds) (cap : Cap) (hs : Option Fds)
    (h : I t (heldAtFork prev cur right cap hs)) :
    I (childPipes prev cur right cap t) (optFds hs ++ (if cur.isSome then [] else capFds cap)) := by
  rw [childPipes_eq]
  cases cur with
  | none =>
    -- no pipe of its own: the pipes to the right, then `prev.1`; the capture pipes stay
    have h1 : I t (fdsOf right ++ (prevFds prev ++ (optFds hs ++ capFds cap))) :=
      hI.congr h (fun x => by simp only [heldAtFork, optFds, List.mem_append, List.not_mem_nil, false_or]; grind)
    exact stepPrev_inv hI prev (closePairs_head hI.close right h1)
  | some c =>
    -- the pipes to the right, the capture pipes, `prev.1`, then `c.2` and `c.1`
    have h1 : I t (fdsOf right ++ (capFds cap ++ (prevFds prev ++ (c.2 :: c.1 :: (optFds hs ++ []))))) :=
      hI.congr h (fun x => by simp only [heldAtFork, optFds, List.mem_append, List.mem_cons, List.not_mem_nil, or_false]; grind)
    have h2 : I (stepCap (some c) cap (stepRight right t)) (prevFds prev ++ (c.2 :: c.1 :: (optFds hs ++ []))) :=
      closeCap_head hI.close cap (closePairs_head hI.close right h1)
    have h3 : I (stepPrev prev (stepCap (some c) cap (stepRight right t))) (c.2 :: c.1 :: (optFds hs ++ [])) :=
      stepPrev_inv hI prev h2
    exact hI.close (hI.close (hI.dup2 c.2 1 (by omega) h3))

theorem childStdin_inv {t t' : Table} {O : List Nat} (cfg : Cfg) (cmd : Command) (hs : Option Fds)
    (hhs : cmd.isHere = false → hs = none)
    (h : I t (optFds hs ++ O)) (hr : childStdin cfg cmd hs t = some t') : I t' O := by
  obtain ⟨t1, hfrom, rfl⟩ := childStdin_some hr
  have hc : I t1 (optFds hs ++ O) := by
    rcases hfrom with ⟨_, rfl⟩ | ⟨_, t2, fd, ho, rfl⟩
    · exact h
    · exact hI.alloc h ho (dst := 0) (by omega) (fun _ => ⟨_, _, rfl⟩) (Or.inl rfl)
  cases hh : cmd.isHere with
  | false => rw [hhs hh] at hc; exact hc
  | true =>
    cases hs with
    | none => exact hc
    | some p =>
      have hc' : I t1 (p.2 :: p.1 :: O) :=
        hI.congr hc (fun x => by simp only [optFds, List.cons_append, List.nil_append, List.mem_cons]; exact or_left_comm)
      exact hI.close (hI.dup2 p.1 0 (by omega) (hI.close hc'))

theorem redirStep_inv {cfg : Cfg} {notLast capture : Bool} {s s' : RState} {r : Redir} {O : List Nat}
    (h : I s.t O) (hs : redirStep cfg notLast capture s r = some s') : I s'.t O := by
  cases redirStep_stepped hs with
  | ignored => exact h
  | direct => exact hI.dup2 1 2 (by omega) h
  | viaTemp hd _ ha => exact hI.alloc h ha hd.dst_lt (fun hc => by cases hc) (Or.inl rfl)
  | file _ _ _ ho hd ht =>
    exact hI.alloc h ho (by omega) (fun _ => ⟨_, _, rfl⟩) (Or.inr ⟨rfl, ht⟩)

theorem redirLoop_inv {cfg : Cfg} {notLast capture : Bool} {O : List Nat} :
    ∀ (rs : List Redir) (s : RState), I s.t O → I (redirLoop cfg notLast capture s rs).1.t O := by
  intro rs
  induction rs with
  | nil => intro s h; exact h
  | cons r rs ih =>
    intro s h
    unfold redirLoop
    cases hs : redirStep cfg notLast capture s r with
    | none => exact h
    | some s' => exact ih s' (redirStep_inv hI h hs)

/-- `tfin` is the table on which `childRun` decides what the stage becomes: nothing held at `fork` is left to be closed -/
theorem childRun_inv {cfg : Cfg} {cmd : Command} {prev cur : Option Fds} {right : List Fds} {cap : Cap} {hs : Option Fds}
    {capture : Bool} {tf : Table} {ce : ChildEnd} {lg : List (Str × Nat)}
    (h : I tf (heldAtFork prev cur right cap hs))
    (hhs : cmd.isHere = false → hs = none) (hcap : capture = false → cap = (none, none))
    (hrun : childRun cfg cmd prev cur right cap hs capture tf = (ce, lg)) :
    (∃ c, ce = .died c) ∨
    ∃ tfin, I tfin [] ∧ (ce = .builtin cmd.argv tfin ∨ ce = .exec cmd.argv tfin.atExec ∨ ce = .notFound cmd.argv tfin) := by
  rcases childRun_cases hrun with hd | ⟨t1, s, tfin, hst, hrl, rfl, hce⟩
  · exact Or.inl hd
  · have h3 := redirLoop_inv hI (cfg := cfg) (notLast := cur.isSome) (capture := capture) cmd.redirectsTo { t := t1 }
      (childStdin_inv hI cfg cmd hs hhs (childPipes_inv hI prev cur right cap hs h) hst)
    rw [hrl] at h3
    refine Or.inr ⟨_, ?_, hce⟩
    cases cur with
    | some p => exact h3
    | none =>
      cases capture with
      | true => exact capBlock_inv hI cap _ _ h3
      | false => rw [hcap rfl] at h3; exact h3

end

end Cicada.Pipeline
