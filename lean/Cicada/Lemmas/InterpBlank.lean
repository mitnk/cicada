import Cicada.Lemmas.RepBlank
import Cicada.Lemmas.Lit
/-!
# The script interpreter refines the structured semantics

By induction on the interpreter's fuel, for all four mutually recursive parts at once (`GoodB`), over the relations `RStmtB` /
`RBlockB` / `RArmsB` of `Lemmas/RepBlank.lean`: pairs whose text trims to nothing (blank script lines) may be interleaved in
any statement list, and `run_exp` skips them.  The strict relations of `Lemmas/Interp.lean` are the case `B := False`
(`good_all` restates `good_allB False` for them).  `hE`: the structured semantics `semBlock` has no clause for exit-on-error,
so the refinement can only hold where `set -e` is off.  In the four parts, a body is run with the fuel the interpreter
hands down (`ih f'`), the next arm / iteration with the fuel of the call itself.
-/
namespace Cicada.C14
open Cicada Cicada.Locust

/-- what the refinement says at one fuel level of the interpreter (`Good` over the relations with blank pairs) -/
structure GoodB {σ} (B : Prop) (sem : Sem σ) (args : List Str) (f : Nat) : Prop where
  blk : ∀ b ts inLoop st last r, RBlockB B args b ts → runExp sem args f ts inLoop st last = .ok r →
    ∃ g fl, semBlock sem g b inLoop st = .ok (r.st, fl) ∧ FlagRel r fl
  arms : ∀ arms els brs inLoop st last r, RArmsB B args arms els brs → runIf sem args f brs inLoop st last = .ok r →
    ∃ g fl, semArms sem g arms els inLoop st = .ok (r.st, fl) ∧ FlagRel r fl
  loop : ∀ v body kids ws st last r, RBlockB B args body kids → forLoop sem args f v kids ws st last = .ok r →
    ∃ g, semFor sem g v body ws st = .ok r.st
  whl : ∀ t body text t1 tt t3 kids st last r, trim tt = t → expandArgs args t = t → RBlockB B args body kids →
    runWhile sem args f (.node "EXP_WHILE" text [.node "WHILE_HEAD" t1 [.node "TEST" tt []], .node "EXP_BODY" t3 kids]) st last = .ok r →
    ∃ g, semWhile sem g t body st = .ok r.st

/-- the block part at fuel `f + 1`, given the refinement at every smaller fuel -/
theorem good_blkB {σ} (B : Prop) (sem : Sem σ) (args : List Str) (hE : ∀ s, sem.exitOnError s = false) (f : Nat)
    (ih : ∀ m, m ≤ f → GoodB B sem args m) :
    ∀ b ts inLoop st last r, RBlockB B args b ts → runExp sem args (f + 1) ts inLoop st last = .ok r →
      ∃ g fl, semBlock sem g b inLoop st = .ok (r.st, fl) ∧ FlagRel r fl := by
  intro b ts inLoop st last r hR hrun
  cases hR with
  | nil =>
    simp only [runExp, Outcome.ok.injEq] at hrun
    subst hrun
    exact ⟨1, .normal, by simp [semBlock], flagRel_plain _ _⟩
  | @blank b r0 text kids ps hB htx hrest =>
    simp only [runExp, PT.text, htx, ↓reduceIte] at hrun
    exact (ih f (Nat.le_refl f)).blk _ _ _ _ _ _ hrest hrun
  | @cons s p rest ps hs hrest =>
    have ihf := ih f (Nat.le_refl f)
    cases hs with
    | @cmd l text htx hpl =>
      obtain ⟨hne, hnc, hnb, hex⟩ := hpl
      simp only [runExp, PT.text, PT.rule, htx, hne, ↓reduceIte, hnc, hnb, hex] at hrun
      -- whatever the status, with exit-on-error off the loop goes on with the rest
      have hgo : runExp sem args f ps inLoop (sem.runLine st l).1
          (match (sem.runLine st l).2 with | some x => some x | none => last) = .ok r := by
        revert hrun
        cases (sem.runLine st l).2 with
        | none => cases last <;> simp [hE]
        | some x => simp [hE]
      obtain ⟨g, fl, hg, hfl⟩ := ihf.blk _ _ _ _ _ _ hrest hgo
      exact ⟨g + 1, fl, by simpa [semBlock] using hg, hfl⟩
    | @brk text htx =>
      have h1 : "break".toList ≠ [] := by decide +kernel
      have h2 : "break".toList ≠ "continue".toList := by decide +kernel
      simp only [runExp, PT.text, PT.rule, htx, h1, ↓reduceIte, h2] at hrun
      cases inLoop with
      | true =>
        simp only [↓reduceIte, Outcome.ok.injEq] at hrun
        subst hrun
        exact ⟨1, .brk, by simp [semBlock], Or.inr (Or.inr ⟨rfl, rfl, rfl⟩)⟩
      | false =>
        simp only [Bool.false_eq_true, ↓reduceIte] at hrun
        obtain ⟨g, fl, hg, hfl⟩ := ihf.blk _ _ _ _ _ _ hrest hrun
        exact ⟨g + 1, fl, by simpa [semBlock] using hg, hfl⟩
    | @cont text htx =>
      have h1 : "continue".toList ≠ [] := by decide +kernel
      simp only [runExp, PT.text, PT.rule, htx, h1, ↓reduceIte] at hrun
      cases inLoop with
      | true =>
        simp only [↓reduceIte, Outcome.ok.injEq] at hrun
        subst hrun
        exact ⟨1, .cont, by simp [semBlock], Or.inr (Or.inl ⟨rfl, rfl, rfl⟩)⟩
      | false =>
        simp only [Bool.false_eq_true, ↓reduceIte] at hrun
        obtain ⟨g, fl, hg, hfl⟩ := ihf.blk _ _ _ _ _ _ hrest hrun
        exact ⟨g + 1, fl, by simpa [semBlock] using hg, hfl⟩
    | @ite arms els text brs htx harms =>
      simp only [runExp, PT.text, PT.rule, PT.kids, htx, ↓reduceIte, String.reduceEq] at hrun
      obtain ⟨r1, hif, hk⟩ := bind_ok hrun
      obtain ⟨g1, fl1, hg1, hfl1⟩ := ihf.arms _ _ _ _ _ _ _ harms hif
      rcases hfl1 with ⟨rfl, hc, hb⟩ | ⟨rfl, hc, hb⟩ | ⟨rfl, hc, hb⟩
      · simp only [hc, Bool.false_eq_true, ↓reduceIte, hb] at hk
        obtain ⟨g2, fl, hg2, hfl⟩ := ihf.blk _ _ _ _ _ _ hrest hk
        refine ⟨max g1 g2 + 1, fl, ?_, hfl⟩
        simp only [semBlock, semArms_mono (Nat.le_max_left g1 g2) hg1, Outcome.bind, ↓reduceIte]
        exact semBlock_mono (Nat.le_max_right g1 g2) hg2
      · simp only [hc, ↓reduceIte, Outcome.ok.injEq] at hk
        subst hk
        refine ⟨g1 + 1, .cont, ?_, Or.inr (Or.inl ⟨rfl, rfl, rfl⟩)⟩
        simp [semBlock, hg1, Outcome.bind]
      · simp only [hc, Bool.false_eq_true, ↓reduceIte, hb, Outcome.ok.injEq] at hk
        subst hk
        refine ⟨g1 + 1, .brk, ?_, Or.inr (Or.inr ⟨rfl, rfl, rfl⟩)⟩
        simp [semBlock, hg1, Outcome.bind]
    | @«for» v init body text t1 t2 vt tt t3 kids htx hv hi hbody =>
      simp only [runExp, PT.text, PT.rule, htx, ↓reduceIte, String.reduceEq] at hrun
      obtain ⟨r1, hfor, hk⟩ := bind_ok hrun
      cases f with
      | zero => simp [runFor] at hfor
      | succ f' =>
        simp only [runFor, firstKid, PT.kids, PT.rule, List.find?, String.reduceEq, decide_true, decide_false,
          Option.bind, PT.text, Option.map, Option.getD, hv, hi] at hfor
        obtain ⟨g1, hg1⟩ := (ih f' (by omega)).loop _ _ _ _ _ _ _ hbody hfor
        obtain ⟨g2, fl, hg2, hfl⟩ := ihf.blk _ _ _ _ _ _ hrest hk
        refine ⟨max g1 g2 + 1, fl, ?_, hfl⟩
        simp only [semBlock, semFor_mono (Nat.le_max_left g1 g2) hg1, Outcome.bind]
        exact semBlock_mono (Nat.le_max_right g1 g2) hg2
    | @whl t body text t1 tt t3 kids htx ht hex hbody =>
      simp only [runExp, PT.text, PT.rule, htx, ↓reduceIte, String.reduceEq] at hrun
      obtain ⟨r1, hw, hk⟩ := bind_ok hrun
      obtain ⟨g1, hg1⟩ := ihf.whl _ _ _ _ _ _ _ _ _ _ ht hex hbody hw
      obtain ⟨g2, fl, hg2, hfl⟩ := ihf.blk _ _ _ _ _ _ hrest hk
      refine ⟨max g1 g2 + 1, fl, ?_, hfl⟩
      simp only [semBlock, semWhile_mono (Nat.le_max_left g1 g2) hg1, Outcome.bind]
      exact semBlock_mono (Nat.le_max_right g1 g2) hg2

theorem good_armsB {σ} (B : Prop) (sem : Sem σ) (args : List Str) (f : Nat) (ih : ∀ m, m ≤ f → GoodB B sem args m) :
    ∀ arms els brs inLoop st last r, RArmsB B args arms els brs → runIf sem args (f + 1) brs inLoop st last = .ok r →
      ∃ g fl, semArms sem g arms els inLoop st = .ok (r.st, fl) ∧ FlagRel r fl := by
  intro arms els brs inLoop st last r hR hrun
  cases hR with
  | done =>
    simp only [runIf, Outcome.ok.injEq] at hrun
    subst hrun
    exact ⟨2, .normal, by simp [semArms, semBlock], flagRel_plain _ _⟩
  | @els els t1 t2 t3 kids hbody =>
    simp only [runIf] at hrun
    obtain ⟨⟨r1, passed⟩, hbr, hk⟩ := bind_ok hrun
    cases f with
    | zero => simp [runBranch] at hbr
    | succ f' =>
      simp only [runBranch, PT.kids, PT.rule, List.find?, String.reduceEq, decide_true, decide_false,
        Option.isSome_some, firstKid, Bool.not_true, Bool.false_eq_true, ↓reduceIte, or_self] at hbr
      simp only [Outcome.map] at hbr
      obtain ⟨r2, hrx, he⟩ := bind_ok hbr
      simp only [Outcome.ok.injEq, Prod.mk.injEq] at he
      obtain ⟨rfl, rfl⟩ := he
      simp only [↓reduceIte, Outcome.ok.injEq] at hk
      subst hk
      obtain ⟨g, fl, hg, hfl⟩ := (ih f' (by omega)).blk _ _ _ _ _ _ hbody hrx
      exact ⟨g + 1, fl, by simpa [semArms] using hg, hfl⟩
  | @arm t body rest els rr hr x y tt z kids brs' hhr htx hex hbody hrest =>
    simp only [runIf] at hrun
    obtain ⟨⟨r1, passed⟩, hbr, hk⟩ := bind_ok hrun
    cases f with
    | zero => simp [runBranch] at hbr
    | succ f' =>
      obtain ⟨last', hB⟩ := runBranch_test sem args f' (hhr.imp_right Or.inl) htx hex inLoop st last
      rw [hB] at hbr
      by_cases hp : (sem.runLine st t).2 = some 0
      · -- the condition holds: this arm's body runs and the `if` is over
        simp only [hp, ↓reduceIte, Outcome.map] at hbr
        obtain ⟨r2, hrx, he⟩ := bind_ok hbr
        simp only [Outcome.ok.injEq, Prod.mk.injEq] at he
        obtain ⟨rfl, rfl⟩ := he
        simp only [↓reduceIte, Outcome.ok.injEq] at hk
        subst hk
        obtain ⟨g, fl, hg, hfl⟩ := (ih f' (by omega)).blk _ _ _ _ _ _ hbody hrx
        exact ⟨g + 1, fl, by simpa [semArms, hp] using hg, hfl⟩
      · -- the condition fails: the arm is skipped, the next branch is tried
        simp only [hp, ↓reduceIte, Outcome.ok.injEq, Prod.mk.injEq] at hbr
        obtain ⟨rfl, rfl⟩ := hbr
        simp only [Bool.false_eq_true, ↓reduceIte] at hk
        obtain ⟨g, fl, hg, hfl⟩ := (ih (f' + 1) (by omega)).arms _ _ _ _ _ _ _ hrest hk
        exact ⟨g + 1, fl, by simpa [semArms, hp] using hg, hfl⟩

theorem good_loopB {σ} (B : Prop) (sem : Sem σ) (args : List Str) (f : Nat) (ih : ∀ m, m ≤ f → GoodB B sem args m) :
    ∀ v body kids ws st last r, RBlockB B args body kids → forLoop sem args (f + 1) v kids ws st last = .ok r →
      ∃ g, semFor sem g v body ws st = .ok r.st := by
  intro v body kids ws st last r hbody hrun
  cases ws with
  | nil =>
    simp only [forLoop, Outcome.ok.injEq] at hrun
    subst hrun
    exact ⟨1, by simp [semFor]⟩
  | cons w ws =>
    simp only [forLoop] at hrun
    obtain ⟨r1, hrx, hk⟩ := bind_ok hrun
    obtain ⟨g1, fl, hg1, hfl⟩ := (ih f (Nat.le_refl f)).blk _ _ _ _ _ _ hbody hrx
    by_cases hb : r1.brk = true
    · simp only [hb, ↓reduceIte, Outcome.ok.injEq] at hk
      subst hk
      exact ⟨g1 + 1, by simp [semFor, hg1, Outcome.bind, hfl.brk_iff.1 hb]⟩
    · simp only [hb, Bool.false_eq_true, ↓reduceIte] at hk
      have hflb : fl ≠ .brk := fun h => hb (hfl.brk_iff.2 h)
      obtain ⟨g2, hg2⟩ := (ih f (Nat.le_refl f)).loop _ _ _ _ _ _ _ hbody hk
      refine ⟨max g1 g2 + 1, ?_⟩
      simp only [semFor, semBlock_mono (Nat.le_max_left g1 g2) hg1, Outcome.bind, hflb, ↓reduceIte]
      exact semFor_mono (Nat.le_max_right g1 g2) hg2

theorem good_whlB {σ} (B : Prop) (sem : Sem σ) (args : List Str) (f : Nat) (ih : ∀ m, m ≤ f → GoodB B sem args m) :
    ∀ t body text t1 tt t3 kids st last r, trim tt = t → expandArgs args t = t → RBlockB B args body kids →
      runWhile sem args (f + 1) (.node "EXP_WHILE" text [.node "WHILE_HEAD" t1 [.node "TEST" tt []], .node "EXP_BODY" t3 kids]) st last = .ok r →
      ∃ g, semWhile sem g t body st = .ok r.st := by
  intro t body text t1 tt t3 kids st last r htx hex hbody hrun
  simp only [runWhile] at hrun
  obtain ⟨⟨r1, passed⟩, hbr, hk⟩ := bind_ok hrun
  cases f with
  | zero => simp [runBranch] at hbr
  | succ f' =>
    obtain ⟨last', hB⟩ := runBranch_test sem args f' (.inr (.inr rfl)) htx hex true st last
    rw [hB] at hbr
    by_cases hp : (sem.runLine st t).2 = some 0
    · simp only [hp, ↓reduceIte, Outcome.map] at hbr
      obtain ⟨r2, hrx, he⟩ := bind_ok hbr
      simp only [Outcome.ok.injEq, Prod.mk.injEq] at he
      obtain ⟨rfl, rfl⟩ := he
      obtain ⟨g1, fl, hg1, hfl⟩ := (ih f' (by omega)).blk _ _ _ _ _ _ hbody hrx
      by_cases hb : r2.brk = true
      · simp only [Bool.not_true, Bool.false_eq_true, hb, or_true, ↓reduceIte, Outcome.ok.injEq] at hk
        subst hk
        exact ⟨g1 + 1, by simp [semWhile, hp, hg1, Outcome.bind, hfl.brk_iff.1 hb]⟩
      · simp only [Bool.not_true, Bool.false_eq_true, hb, or_self, ↓reduceIte] at hk
        have hflb : fl ≠ .brk := fun h => hb (hfl.brk_iff.2 h)
        obtain ⟨g2, hg2⟩ := (ih (f' + 1) (Nat.le_refl _)).whl _ _ _ _ _ _ _ _ _ _ htx hex hbody hk
        refine ⟨max g1 g2 + 1, ?_⟩
        simp only [semWhile, hp, ↓reduceIte, semBlock_mono (Nat.le_max_left g1 g2) hg1, Outcome.bind, hflb]
        exact semWhile_mono (Nat.le_max_right g1 g2) hg2
    · simp only [hp, ↓reduceIte, Outcome.ok.injEq, Prod.mk.injEq] at hbr
      obtain ⟨rfl, rfl⟩ := hbr
      simp only [Bool.not_false, true_or, ↓reduceIte, Outcome.ok.injEq] at hk
      subst hk
      exact ⟨1, by simp [semWhile, hp]⟩

theorem good_allB {σ} (B : Prop) (sem : Sem σ) (args : List Str) (hE : ∀ s, sem.exitOnError s = false) : ∀ f, GoodB B sem args f := by
  intro f
  induction f using Nat.strongRecOn with
  | _ f ih =>
    cases f with
    | zero =>
      exact ⟨fun _ _ _ _ _ _ _ h => by simp [runExp] at h, fun _ _ _ _ _ _ _ _ h => by simp [runIf] at h,
             fun _ _ _ _ _ _ _ _ h => by simp [forLoop] at h, fun _ _ _ _ _ _ _ _ _ _ _ _ _ h => by simp [runWhile] at h⟩
    | succ f =>
      have ih' : ∀ m, m ≤ f → GoodB B sem args m := fun m hm => ih m (by omega)
      exact ⟨good_blkB B sem args hE f ih', good_armsB B sem args f ih', good_loopB B sem args f ih', good_whlB B sem args f ih'⟩


/-- the strict reading: `RBlock` is `RBlockB False` -/
theorem good_all {σ} (sem : Sem σ) (args : List Str) (hE : ∀ s, sem.exitOnError s = false) : ∀ f, Good sem args f := by
  intro f
  have h := good_allB False sem args hE f
  exact ⟨fun b ts inLoop st last r hR => h.blk b ts inLoop st last r (rBlock_toB hR),
    fun arms els brs inLoop st last r hR => h.arms arms els brs inLoop st last r (rArms_toB hR),
    fun v body kids ws st last r hR => h.loop v body kids ws st last r (rBlock_toB hR),
    fun t body text t1 tt t3 kids st last r htx hex hR => h.whl t body text t1 tt t3 kids st last r htx hex (rBlock_toB hR)⟩

/-- **the interpreter refines the structured semantics, blank-line pairs allowed**: `C14_interpreter_refines` for
pair trees in which pairs with blank text (blank script lines) are interleaved (`RBlockB`) -/
theorem C14_interpreter_refines_blank {σ} (B : Prop) (sem : Sem σ) (args : List Str) (hE : ∀ s, sem.exitOnError s = false)
    (b : Block) (ts : List PT) (hrep : RBlockB B args b ts) (f : Nat) (inLoop : Bool) (st : σ) (last : Option Int) (r : RunRes σ)
    (hrun : runExp sem args f ts inLoop st last = .ok r) :
    ∃ g fl, semBlock sem g b inLoop st = .ok (r.st, fl) ∧ FlagRel r fl :=
  (good_allB B sem args hE f).blk b ts inLoop st last r hrep hrun

/-- `C14_script_refines` with blank-line pairs allowed in the tree -/
theorem C14_script_refines_blank {σ} (B : Prop) (sem : Sem σ) (args : List Str) (hE : ∀ s, sem.exitOnError s = false)
    (b : Block) (text : Str) (root : Str) (ts : List PT) (hparse : parseLines text = some (.node "EXP" root ts))
    (hrep : RBlockB B args b ts) (f : Nat) (st : σ) (r : RunRes σ)
    (hrun : runLines sem args f text st = .ok (some r)) :
    ∃ g fl, semBlock sem g b false st = .ok (r.st, fl) := by
  unfold runLines at hrun
  simp only [hparse, PT.kids, Outcome.map] at hrun
  obtain ⟨r', h1, h2⟩ := bind_ok hrun
  simp only [Outcome.ok.injEq, Option.some.injEq] at h2
  subst h2
  obtain ⟨g, fl, hg, _⟩ := C14_interpreter_refines_blank B sem args hE b ts hrep f false st none r' h1
  exact ⟨g, fl, hg⟩

/-- `C14_interpreter_refines` is the instance `B := False` of `C14_interpreter_refines_blank` -/
example {σ} (sem : Sem σ) (args : List Str) (hE : ∀ s, sem.exitOnError s = false)
    (b : Block) (ts : List PT) (hrep : RBlock args b ts) (f : Nat) (inLoop : Bool) (st : σ) (last : Option Int) (r : RunRes σ)
    (hrun : runExp sem args f ts inLoop st last = .ok r) :
    ∃ g fl, semBlock sem g b inLoop st = .ok (r.st, fl) ∧ FlagRel r fl :=
  C14_interpreter_refines_blank False sem args hE b ts (rBlock_toB hrep) f inLoop st last r hrun

/-- the children of the top pair for `a / (blank line) / if t / (blank line) / b / fi`: the blank lines are `CMD` pairs with text
`"\n"` (`"  \n"` inside the body) -/
def exTreeBlank : List PT :=
  [.node "CMD" "a\n".toList [],
   .node "CMD" "\n".toList [],
   .node "EXP_IF" "if t\n  \nb\nfi\n".toList
     [.node "IF_IF_BR" "if t\n  \nb\n".toList [.node "IF_HEAD" "if t\n".toList [.node "TEST" "t".toList []],
        .node "EXP_BODY" "  \nb\n".toList [.node "CMD" "  \n".toList [], .node "CMD" "b\n".toList []]]]]

/-- non-vacuity: a tree with a blank `CMD "\n"` pair between two statement pairs (and one inside an `if` body) represents
the AST without the blank lines -/
example : RBlockB True [] (.cons (.cmd "a".toList) (.cons (.ite (.cons "t".toList (.cons (.cmd "b".toList) .nil) .nil) .nil) .nil))
    exTreeBlank := by
  unfold exTreeBlank
  lit_lists
  refine .cons (.cmd (by decide +kernel) ⟨by decide +kernel, by decide +kernel, by decide +kernel, by decide +kernel⟩)
    (.blank trivial (by decide +kernel)
      (.cons (.ite (by decide +kernel) (.arm (Or.inl rfl) (by decide +kernel) (by decide +kernel)
        (.blank trivial (by decide +kernel) (.cons (.cmd (by decide +kernel) ⟨by decide +kernel, by decide +kernel, by decide +kernel, by decide +kernel⟩) .nil)) .done)) .nil))

/-- a blank `CMD "\n"` pair between two command pairs -/
example : RBlockB True [] (.cons (.cmd "a".toList) (.cons (.cmd "b".toList) .nil))
    [.node "CMD" "a\n".toList [], .node "CMD" "\n".toList [], .node "CMD" "b\n".toList []] :=
  .cons (.cmd (by decide +kernel) ⟨by decide +kernel, by decide +kernel, by decide +kernel, by decide +kernel⟩)
    (.blank trivial (by decide +kernel) (.cons (.cmd (by decide +kernel) ⟨by decide +kernel, by decide +kernel, by decide +kernel, by decide +kernel⟩) .nil))

/-- ... and the same tree is NOT in the relation without blanks -/
example : ¬ RBlock [] (.cons (.cmd "a".toList) (.cons (.cmd "b".toList) .nil))
    [.node "CMD" "a\n".toList [], .node "CMD" "\n".toList [], .node "CMD" "b\n".toList []] := by
  intro h
  cases h with
  | cons _ h2 =>
    cases h2 with
    | cons _ h3 => cases h3

end Cicada.C14

