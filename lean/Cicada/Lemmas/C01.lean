import Cicada.Lemmas.Passes
import Cicada.Lemmas.C03
import Cicada.Lemmas.Lit
/-!
# The tokenizer and list splitting on a rendered command (C01), all three argument styles

The scanner (`PL.step`) while it reads unquoted / escaped text: `sep` may be the sticky `\` tag left by a word that began
with `\|` (kept while the following words start with an escaped character), `sepMade` is set by `\>` / `\<`.  The sticky
mode is tracked as a function of the argument list (`stickyStep`, suffix `T` on the lemmas), because a `|` written directly
after the last argument ends the word only outside that mode.  That is what `Done` / `ReadsAs` of Lemmas/Tokenizer cannot
say (items there leave nothing behind for the next one): `SpaceT` is `Done` with the mode and the behaviour at `|`.
Then list-safety (`safeSeg`, Lemmas/C03) of the rendering: list splitting hands the rendered command on as the first
pipeline whatever list operator follows.
-/
namespace Cicada.C01
open Cicada Cicada.TokLemmas Cicada.PassLemmas Cicada.PL Cicada.C03

theorem argsText_eq (args : List (Style × Str)) : (args.map (fun (s, a) => ' ' :: renderArg s a)).flatten = argsText args := rfl

theorem plainWord_facts (p : Str) (h : plainWord p = true) : p.all wordChar = true ∧ p.any isAlphaA = true := by
  simp only [plainWord, Bool.and_eq_true] at h
  refine ⟨?_, h.1⟩
  simpa [wordChar] using h.2

theorem notSpecial_facts {c : Char} (h : isSpecial c = false) :
    c ≠ '$' ∧ c ≠ '(' ∧ c ≠ ')' ∧ c ≠ '\\' ∧ c ≠ ' ' ∧ c ≠ '\'' ∧ c ≠ '"' ∧ c ≠ '`' ∧ c ≠ '#' ∧ c ≠ '|' ∧ c ≠ '>' ∧ c ≠ '<' ∧
    c ≠ ';' ∧ c ≠ '&' := by
  revert h
  unfold isSpecial
  lit_lists
  intro h
  simp only [List.contains_eq_mem, List.mem_cons, List.not_mem_nil, or_false, decide_eq_false_iff_not, not_or] at h
  simp only [ne_eq, h, not_false_eq_true, and_self]

theorem okArg_sq {a : Str} (h : okArg .sq a = true) : ∀ c ∈ a, c ≠ '\'' := by
  intro c hc e; subst e
  simp [okArg] at h
  exact h hc

theorem okArg_dq {a : Str} (h : okArg .dq a = true) : ∀ c ∈ a, c ≠ '$' ∧ c ≠ '`' ∧ c ≠ '\\' ∧ c ≠ '"' := by
  intro c hc
  simp [okArg] at h
  have := h c hc
  simp_all

/-- general state of the scanner while it reads unquoted / escaped text -/
def E (r : List Tok) (sp t : Str) (nr hd : Bool) (sm : Str) (bs : Bool) : St :=
  { result := r, sep := sp, token := t, newRound := nr, hasDollar := hd, sepMade := sm, bs := bs }

/-- between words; `sp` is `[]` or the sticky `['\\']` -/
def B (r : List Tok) (sp : Str) (hd : Bool) : St := E r sp [] true hd [] false

theorem clean_eq_B (r : List Tok) (hd : Bool) : clean r hd = B r [] hd := rfl

def SpOk (sp : Str) : Prop := sp = [] ∨ sp = ['\\']

theorem step_raw_new (r : List Tok) (sp t : Str) (hd : Bool) (sm : Str) (c : Char) (n : Option Char)
    (h : isSpecial c = false) :
    step (E r sp t true hd sm false) c n = E r [] (t ++ [c]) false hd sm false := by
  simp [step, E, isQ, notSpecial_facts h]

theorem step_raw_in (r : List Tok) (sp t : Str) (hd : Bool) (sm : Str) (c : Char) (n : Option Char)
    (h : isSpecial c = false) (hsp : SpOk sp) :
    step (E r sp t false hd sm false) c n = E r sp (t ++ [c]) false hd sm false := by
  rcases hsp with rfl | rfl <;>
    simp [step, stepMid, stepTail, E, isQ, notSpecial_facts h]

theorem step_bs (r : List Tok) (sp t : Str) (nr hd : Bool) (sm : Str) (n : Option Char) (hsp : SpOk sp) :
    step (E r sp t nr hd sm false) '\\' n = E r sp t nr hd sm true := by
  rcases hsp with rfl | rfl <;> simp [step, E]

/-- `\>` / `\<` outside the sticky mode: the token will be tagged `'`; `newRound` is left as it was -/
theorem step_esc_ltgt (r : List Tok) (t : Str) (nr hd : Bool) (sm : Str) (c : Char) (n : Option Char)
    (hc : c = '>' ∨ c = '<') :
    step (E r [] t nr hd sm true) c n = E r [] (t ++ [c]) nr hd ['\''] false := by
  rcases hc with rfl | rfl <;> simp [step, E]

/-- `\|` as the first character of a word: the word gets the sticky `\` tag -/
theorem step_esc_pipe_first (r : List Tok) (hd : Bool) (sm : Str) (n : Option Char) :
    step (E r [] [] true hd sm true) '|' n = E r ['\\'] ['|'] false hd sm false := by
  simp [step, E]

theorem step_esc_sticky (r : List Tok) (t : Str) (nr hd : Bool) (sm : Str) (c : Char) (n : Option Char) :
    step (E r ['\\'] t nr hd sm true) c n = E r ['\\'] (t ++ [c]) false hd sm false := by
  simp [step, E]

theorem step_esc_other (r : List Tok) (t : Str) (nr hd : Bool) (sm : Str) (c : Char) (n : Option Char)
    (h1 : c ≠ '>') (h2 : c ≠ '<') (h3 : c = '|' ∨ c = '$' → ¬ (nr = true ∧ t = [])) :
    step (E r [] t nr hd sm true) c n = E r [] (t ++ [c]) false hd sm false := by
  by_cases hp : c = '|' ∨ c = '$'
  · have := h3 hp
    by_cases hn : nr = true
    · have ht : t ≠ [] := fun e => this ⟨hn, e⟩
      simp [step, E, h1, h2, ht]
    · simp [step, E, h1, h2, hn]
  · simp [step, E, h1, h2, hp]

theorem step_blank_plain (r : List Tok) (t : Str) (hd : Bool) (sm : Str) (n : Option Char) :
    step (E r [] t false hd sm false) ' ' n = B (r ++ [(sm, t)]) [] hd := by
  by_cases h : sm = []
  · subst h; simp [step, stepMid, stepTail, E, B, pushTok]
  · simp [step, stepMid, stepTail, E, B, pushTok, h]

theorem step_blank_sticky (r : List Tok) (t : Str) (hd : Bool) (n : Option Char) :
    step (E r ['\\'] t false hd [] false) ' ' n = B (r ++ [(['\\'], t)]) ['\\'] hd := by
  simp [step, stepMid, stepTail, E, B]

theorem step_B_blank (r : List Tok) (sp : Str) (hd : Bool) (n : Option Char) (hsp : SpOk sp) :
    step (B r sp hd) ' ' n = B r sp hd := by
  rcases hsp with rfl | rfl <;> simp [step, B, E]

theorem step_B_quote (r : List Tok) (sp : Str) (hd : Bool) (q : Char) (n : Option Char) (hq : q = '\'' ∨ q = '"')
    (hsp : SpOk sp) : step (B r sp hd) q n = inQ r q [] hd := by
  rcases hsp with rfl | rfl <;> rcases hq with h | h <;> subst h <;> simp [step, B, E, inQ, isQ]

theorem step_B_pipe (r : List Tok) (sp : Str) (hd : Bool) (n : Option Char) (hn : n ≠ some '|') (hsp : SpOk sp) :
    step (B r sp hd) '|' n = B (r ++ [([], ['|'])]) [] hd := by
  rcases hsp with rfl | rfl <;> simp [step, B, E, isQ, hn]

theorem step_doneQ_pipe (r : List Tok) (t : Str) (hd : Bool) (q : Char) (n : Option Char) (hq : q = '\'' ∨ q = '"') :
    step (doneQ r q t hd) '|' n = B (r ++ [([q], t), ([], ['|'])]) [] hd := by
  rcases hq with h | h <;> subst h <;> simp [step, stepMid, doneQ, B, E, pushTok, resetTok]

theorem step_E_pipe (r : List Tok) (t : Str) (hd : Bool) (sm : Str) (n : Option Char) :
    step (E r [] t false hd sm false) '|' n = B (r ++ [(sm, t), ([], ['|'])]) [] hd := by
  by_cases h : sm = []
  · subst h; simp [step, stepMid, E, B, pushTok, resetTok]
  · simp [step, stepMid, E, B, pushTok, resetTok, h]

theorem step_sticky_pipe (r : List Tok) (t : Str) (hd : Bool) (n : Option Char) :
    step (E r ['\\'] t false hd [] false) '|' n = E r ['\\'] (t ++ ['|']) false hd [] false := by
  simp [step, stepMid, stepTail, E, isQ]

theorem inW_eq_E (r : List Tok) (t : Str) (hd : Bool) : inW r t hd = E r [] t false hd [] false := rfl

def stickyChar (st : Bool) (c : Char) : Bool := if c = '|' then true else if isSpecial c then st else false

/-- one step of the driver's `sticky` fold -/
def stickyStep (st : Bool) (x : Style × Str) : Bool :=
  match x with
  | (.esc, c :: _) => if c = '|' then true else if isSpecial c then st else false
  | _ => false

/-- the tokenizer is in the sticky mode after the last argument: a word began with an escaped `|` and every word since
began with an escaped character -/
def stickyEnd (args : List (Style × Str)) : Bool := args.foldl stickyStep false

def spOf : Bool → Str
  | true => ['\\']
  | false => []

theorem spOk_spOf (b : Bool) : SpOk (spOf b) := by cases b <;> simp [SpOk, spOf]

def stickyW (b : Bool) (t a : Str) : Bool :=
  match t, a with
  | [], c :: _ => stickyChar b c
  | _, _ => b

theorem stickyW_ne (b : Bool) (t a : Str) (h : t ≠ []) : stickyW b t a = b := by
  cases t with
  | nil => exact absurd rfl h
  | cons x xs => rfl

theorem stickyW_nil (b : Bool) (t : Str) : stickyW b t [] = b := by cases t <;> rfl

def ltgt (c : Char) : Bool := c = '<' || c = '>'

/-- invariant of the scanner state while it reads an escaped word: `sp` the tag, `t` the token so far, `nr` the
`newRound` flag, `sm` the `sepMade` tag -/
structure Inv (sp t : Str) (nr : Bool) (sm : Str) : Prop where
  spOk : SpOk sp
  smOk : sm = [] ∨ sm = ['\'']
  /-- in the sticky mode `\>` / `\<` do not set `sepMade` (that step needs an empty tag), and `newRound` holds only
  before the first character -/
  sticky : sp = ['\\'] → sm = [] ∧ (nr = true → t = [])
  /-- an untagged token without `sepMade` holds no `<`, `>`: each of them would have set it -/
  untagged : sp = [] → sm = [] → ∀ c ∈ t, c ≠ '<' ∧ c ≠ '>'
  /-- `newRound` survives only `\<` / `\>` (the scanner goes on before it clears the flag): the class esc-ltgt-alone -/
  open_ : nr = true → t.all ltgt = true
  empty : t = [] → nr = true ∧ sm = []
  /-- outside the sticky mode the token is never the lone `|` (a first `\|` switches the mode on), which planning would
  take for a pipe -/
  pipe : sp = [] → t ≠ ['|']

theorem Inv.start (sp : Str) (h : SpOk sp) : Inv sp [] true [] :=
  ⟨h, Or.inl rfl, fun _ => ⟨rfl, fun _ => rfl⟩, fun _ _ c hc => by simp at hc, fun _ => rfl, fun _ => ⟨rfl, rfl⟩,
    fun _ => by simp⟩

theorem snoc_ne_single {t : Str} {c d : Char} (h : t ++ [c] = [d]) : t = [] ∧ c = d := by
  cases t with
  | nil => simpa using h
  | cons x xs => simp at h

theorem renderEsc_cons (c : Char) (cs : Str) :
    renderArg .esc (c :: cs) = (if isSpecial c then ['\\', c] else [c]) ++ renderArg .esc cs := by
  simp [renderArg]

theorem go_esc_charT (c : Char) (hc : c ≠ '$') (r : List Tok) (b : Bool) (t : Str) (nr hd : Bool) (sm : Str) (rest : Str)
    (inv : Inv (spOf b) t nr sm) :
    ∃ b' nr' sm', go (E r (spOf b) t nr hd sm false) ((if isSpecial c then ['\\', c] else [c]) ++ rest) =
        go (E r (spOf b') (t ++ [c]) nr' hd sm' false) rest ∧ Inv (spOf b') (t ++ [c]) nr' sm' ∧
        (t = [] → b' = stickyChar b c) ∧ (t ≠ [] → b' = b) := by
  -- `c` special, written `\c`: outside the sticky mode `\>` / `\<` | a `\|` that begins the word (switches the mode on) |
  -- any other; in the sticky mode it is appended.  `c` not special: first character of a word (leaves the mode) | later one.
  -- Each `refine` gives the new mode, `newRound`, `sepMade`, then the step, then the seven fields of `Inv` in order.
  by_cases hs : isSpecial c = true
  · simp only [hs, ↓reduceIte, List.cons_append, List.nil_append, go]
    rw [step_bs _ _ _ _ _ _ _ (spOk_spOf b)]
    cases b with
    | false =>
      simp only [spOf] at inv ⊢
      by_cases hl : c = '>' ∨ c = '<'
      · refine ⟨false, nr, ['\''], by rw [step_esc_ltgt _ _ _ _ _ _ _ hl], ?_, ?_, fun _ => rfl⟩
        · refine ⟨Or.inl rfl, Or.inr rfl, fun h => by simp at h, fun _ h => by simp at h, ?_, fun h => by simp at h, ?_⟩
          · intro hn
            have := inv.open_ hn
            rcases hl with rfl | rfl <;> simp [List.all_append, this, ltgt]
          · intro _ e
            have := (snoc_ne_single e).2
            rcases hl with rfl | rfl <;> simp at this
        · intro _
          rcases hl with rfl | rfl <;> simp [stickyChar, hs]
      · simp only [not_or] at hl
        by_cases hp : c = '|' ∧ nr = true ∧ t = []
        · obtain ⟨rfl, rfl, rfl⟩ := hp
          have hsm := (inv.empty rfl).2
          subst hsm
          refine ⟨true, false, [], by rw [step_esc_pipe_first]; rfl, ?_, fun _ => by simp [stickyChar], fun h => absurd rfl h⟩
          exact ⟨Or.inr rfl, Or.inl rfl, fun _ => ⟨rfl, fun h => by simp at h⟩, fun h => by simp at h, fun h => by simp at h,
            fun h => by simp at h, fun h => by simp at h⟩
        · refine ⟨false, false, sm, by rw [step_esc_other _ _ _ _ _ _ _ hl.1 hl.2 (fun e h => e.elim (fun e => hp ⟨e, h⟩) hc)], ?_, ?_, fun _ => rfl⟩
          · refine ⟨Or.inl rfl, inv.smOk, fun h => by simp at h, ?_, fun h => by simp at h, fun h => by simp at h, ?_⟩
            · intro _ hsm x hx
              simp only [List.mem_append, List.mem_singleton] at hx
              rcases hx with hx | rfl
              · exact inv.untagged rfl hsm x hx
              · exact ⟨hl.2, hl.1⟩
            · intro _ e
              obtain ⟨e1, e2⟩ := snoc_ne_single e
              exact hp ⟨e2, (inv.empty e1).1, e1⟩
          · intro ht
            have hcp : c ≠ '|' := fun e => hp ⟨e, (inv.empty ht).1, ht⟩
            simp [stickyChar, hs, hcp]
    | true =>
      simp only [spOf] at inv ⊢
      obtain ⟨hsm, hnr⟩ := inv.sticky rfl
      subst hsm
      refine ⟨true, false, [], by rw [step_esc_sticky], ?_, ?_, fun _ => rfl⟩
      · exact ⟨Or.inr rfl, Or.inl rfl, fun _ => ⟨rfl, fun h => by simp at h⟩, fun h => by simp at h, fun h => by simp at h,
          fun h => by simp at h, fun h => by simp at h⟩
      · intro _; simp [stickyChar, hs]
  · have hs' : isSpecial c = false := by simpa using hs
    obtain ⟨a10, a11, a12⟩ : c ≠ '|' ∧ c ≠ '>' ∧ c ≠ '<' := by simp [notSpecial_facts hs']
    simp only [hs', Bool.false_eq_true, ↓reduceIte, List.cons_append, List.nil_append, go]
    cases nr with
    | true =>
      refine ⟨false, false, sm, by rw [step_raw_new _ _ _ _ _ _ _ hs']; rfl, ?_, fun _ => by simp [stickyChar, hs', a10], ?_⟩
      · refine ⟨Or.inl rfl, inv.smOk, fun h => by simp [spOf] at h, ?_, fun h => by simp at h, fun h => by simp at h, ?_⟩
        · intro _ hsm x hx
          simp only [List.mem_append, List.mem_singleton] at hx
          rcases hx with hx | rfl
          · cases b with
            | false => exact inv.untagged rfl hsm x hx
            | true =>
              have := (inv.sticky rfl).2 rfl
              subst this; simp at hx
          · exact ⟨a12, a11⟩
        · intro _ e
          exact a10 (snoc_ne_single e).2
      · intro ht
        cases b with
        | false => rfl
        | true => exact absurd ((inv.sticky rfl).2 rfl) ht
    | false =>
      refine ⟨b, false, sm, by rw [step_raw_in _ _ _ _ _ _ _ hs' inv.spOk], ?_, fun ht => by simpa using (inv.empty ht).1, fun _ => rfl⟩
      refine ⟨inv.spOk, inv.smOk, fun h => ⟨(inv.sticky h).1, fun h => by simp at h⟩, ?_, fun h => by simp at h, fun h => by simp at h, ?_⟩
      · intro hsp hsm x hx
        simp only [List.mem_append, List.mem_singleton] at hx
        rcases hx with hx | rfl
        · exact inv.untagged hsp hsm x hx
        · exact ⟨a12, a11⟩
      · intro _ e
        exact a10 (snoc_ne_single e).2

theorem go_esc_wordT (a : Str) : ∀ (r : List Tok) (b : Bool) (t : Str) (nr hd : Bool) (sm : Str) (rest : Str),
    (∀ c ∈ a, c ≠ '$') → Inv (spOf b) t nr sm →
    ∃ nr' sm', go (E r (spOf b) t nr hd sm false) (renderArg .esc a ++ rest) =
        go (E r (spOf (stickyW b t a)) (t ++ a) nr' hd sm' false) rest ∧
      Inv (spOf (stickyW b t a)) (t ++ a) nr' sm' := by
  induction a with
  | nil =>
    intro r b t nr hd sm rest _ inv
    exact ⟨nr, sm, by simp [renderArg, stickyW_nil], by simpa [stickyW_nil] using inv⟩
  | cons c cs ih =>
    intro r b t nr hd sm rest h inv
    obtain ⟨b1, nr1, sm1, h1, inv1, e1, e2⟩ := go_esc_charT c (h c (by simp)) r b t nr hd sm (renderArg .esc cs ++ rest) inv
    obtain ⟨nr2, sm2, h2, inv2⟩ := ih r b1 (t ++ [c]) nr1 hd sm1 rest (fun x hx => h x (by simp [hx])) inv1
    have eb : stickyW b1 (t ++ [c]) cs = stickyW b t (c :: cs) := by
      rw [stickyW_ne _ _ _ (by simp)]
      cases t with
      | nil => exact e1 rfl
      | cons x xs => exact e2 (by simp)
    rw [eb] at h2 inv2
    refine ⟨nr2, sm2, ?_, by simpa [List.append_assoc] using inv2⟩
    rw [renderEsc_cons, List.append_assoc, h1, h2]
    simp [List.append_assoc]

def TokRel (x : Style × Str) (t : Tok) : Prop :=
  t.2 = x.2 ∧
    (match x.1 with
     | .sq => t.1 = ['\'']
     | .dq => t.1 = ['"']
     | .esc => t.1 = ['\''] ∨ t.1 = ['\\'] ∨ (t.1 = [] ∧ (∀ c ∈ t.2, c ≠ '<' ∧ c ≠ '>') ∧ t.2 ≠ ['|']))

/-- an escaped argument made only of `<` / `>`: the scanner does not end the word at the following blank -/
def escOpen (x : Style × Str) : Bool := x.1 = .esc && onlyLtGt x.2

/-- what the tokenizer needs of an argument; an escaped one is not empty and holds no `$` (`\$` at the start of a word
is tagged like `\|`, and the class esc-dollar is a finding anyway) -/
def wordOk : Style × Str → Bool
  | (.sq, a) => okArg .sq a
  | (.dq, a) => okArg .dq a
  | (.esc, a) => !a.isEmpty && a.all (· ≠ '$')

/-- the scanner has read a word; `r'` is the token list once that word is pushed, `st` the mode.
A blank ends the word; outside the sticky mode so does a `|`; in the sticky mode the state is the open `\`-tagged word.
(The `hasDollar` flag afterwards is left open: a single-quoted word may have set it.) -/
structure SpaceT (s : St) (r' : List Tok) (st : Bool) : Prop where
  space : ∀ n, ∃ hd, step s ' ' n = B r' (spOf st) hd
  pipe : st = false → ∀ n, ∃ hd, step s '|' n = B (r' ++ [([], ['|'])]) [] hd
  stuck : st = true → ∃ r0 t hd, s = E r0 ['\\'] t false hd [] false ∧ t ≠ [] ∧ r' = r0 ++ [(['\\'], t)]

theorem go_word_escT (a : Str) (r : List Tok) (b : Bool) (hd : Bool) (rest : Str)
    (hne : a ≠ []) (hdl : ∀ c ∈ a, c ≠ '$') :
    ∃ s' tok, go (B r (spOf b) hd) (renderArg .esc a ++ rest) = go s' rest ∧ TokRel (.esc, a) tok ∧
      finish s' = r ++ [tok] ∧ (onlyLtGt a = false → SpaceT s' (r ++ [tok]) (stickyStep b (.esc, a))) := by
  obtain ⟨nr', sm', hgo, inv⟩ := go_esc_wordT a r b [] true hd [] rest hdl (Inv.start _ (spOk_spOf b))
  simp only [List.nil_append] at hgo inv
  have hst : stickyW b [] a = stickyStep b (.esc, a) := by
    cases a with
    | nil => exact absurd rfl hne
    | cons c cs => rfl
  rw [hst] at hgo inv
  cases hb : stickyStep b (.esc, a) with
  | false =>
    rw [hb] at hgo inv
    simp only [spOf] at hgo inv
    refine ⟨_, (sm', a), hgo, ?_, ?_, ?_⟩
    · refine ⟨rfl, ?_⟩
      rcases inv.smOk with h | h
      · subst h; exact Or.inr (Or.inr ⟨rfl, inv.untagged rfl rfl, inv.pipe rfl⟩)
      · exact Or.inl h
    · by_cases h : sm' = []
      · subst h; simp [finish, E, hne]
      · simp [finish, E, hne, h]
    · intro ho
      have hnr : nr' = false := by
        cases nr' with
        | false => rfl
        | true =>
          have := inv.open_ rfl
          have e : onlyLtGt a = true := by
            simp only [onlyLtGt, Bool.and_eq_true, Bool.not_eq_true', List.isEmpty_eq_false_iff]
            refine ⟨hne, ?_⟩
            rw [List.all_eq_true] at this ⊢
            intro x hx; have := this x hx; simpa [ltgt] using this
          rw [e] at ho; cases ho
      subst hnr
      refine ⟨fun n => ⟨hd, step_blank_plain _ _ _ _ _⟩, fun _ n => ⟨hd, ?_⟩, fun h => by cases h⟩
      rw [step_E_pipe]; simp
  | true =>
    rw [hb] at hgo inv
    simp only [spOf] at hgo inv
    obtain ⟨hsm, hnr0⟩ := inv.sticky rfl
    subst hsm
    have hnr : nr' = false := by
      cases nr' with
      | false => rfl
      | true => exact absurd (hnr0 rfl) hne
    subst hnr
    refine ⟨_, (['\\'], a), hgo, ⟨rfl, Or.inr (Or.inl rfl)⟩, by simp [finish, E, hne], ?_⟩
    intro _
    exact ⟨fun n => ⟨hd, step_blank_sticky _ _ _ _⟩, fun h => (by cases h), fun _ => ⟨r, a, hd, rfl, hne, rfl⟩⟩

theorem spaceT_doneQ (r : List Tok) (q : Char) (a : Str) (hd : Bool) (hq : q = '\'' ∨ q = '"') :
    SpaceT (doneQ r q a hd) (r ++ [([q], a)]) false := by
  refine ⟨fun n => ⟨hd, ?_⟩, fun _ n => ⟨hd, ?_⟩, fun h => by cases h⟩
  · rw [step_doneQ_space r a hd q n hq]; rfl
  · rw [step_doneQ_pipe r a hd q n hq]; simp

theorem go_word_anyT (x : Style × Str) (r : List Tok) (b : Bool) (hd : Bool) (rest : Str)
    (hok : wordOk x = true) :
    ∃ s' tok, go (B r (spOf b) hd) (renderArg x.1 x.2 ++ rest) = go s' rest ∧ TokRel x tok ∧
      finish s' = r ++ [tok] ∧ (escOpen x = false → SpaceT s' (r ++ [tok]) (stickyStep b x)) := by
  obtain ⟨sty, a⟩ := x
  cases sty with
  | sq =>
    have hb := okArg_sq hok
    refine ⟨doneQ r '\'' a (hd || a.any (· = '$')), (['\''], a), ?_, ⟨rfl, rfl⟩, ?_, ?_⟩
    · simp only [renderArg, List.cons_append, List.nil_append, List.append_assoc, go]
      rw [step_B_quote r _ hd '\'' _ (Or.inl rfl) (spOk_spOf b), go_sq_body a r [] hd _ hb]
      simp only [List.nil_append, go]
      rw [step_close _ _ _ '\'' _ (Or.inl rfl)]
    · simp [finish, doneQ]
    · intro _
      exact spaceT_doneQ r '\'' a _ (Or.inl rfl)
  | dq =>
    have hb := okArg_dq hok
    refine ⟨doneQ r '"' a hd, (['"'], a), ?_, ⟨rfl, rfl⟩, ?_, ?_⟩
    · simp only [renderArg, List.cons_append, List.nil_append, List.append_assoc, go]
      rw [step_B_quote r _ hd '"' _ (Or.inr rfl) (spOk_spOf b), go_dq_body a r [] hd _ hb]
      simp only [List.nil_append, go]
      rw [step_close _ _ _ '"' _ (Or.inr rfl)]
    · simp [finish, doneQ]
    · intro _
      exact spaceT_doneQ r '"' a _ (Or.inr rfl)
  | esc =>
    simp only [wordOk, Bool.and_eq_true, Bool.not_eq_true', List.isEmpty_eq_false_iff, List.all_eq_true,
      decide_eq_true_eq] at hok
    obtain ⟨s', tok, h1, h2, h3, h4⟩ := go_word_escT a r b hd rest hok.1 hok.2
    exact ⟨s', tok, h1, h2, h3, fun ho => h4 (by simpa [escOpen] using ho)⟩

inductive ArgsRel : List (Style × Str) → List Tok → Prop
  | nil : ArgsRel [] []
  | cons {x t xs ts} : TokRel x t → ArgsRel xs ts → ArgsRel (x :: xs) (t :: ts)

/-- Reading a whole argument list from a state `s` that has read a word.  `SpaceT s r' st` is asked for only when there is
an argument to read (the blank before it), and promised again for the end state when it held at the start and the last
argument is not an open `\<` / `\>` word; with no argument the end state is `s` itself. -/
theorem go_argsT (args : List (Style × Str)) : ∀ (s : St) (r' : List Tok) (st : Bool) (rest : Str),
    (args ≠ [] → SpaceT s r' st) → finish s = r' → (∀ x ∈ args, wordOk x = true) →
    (∀ x ∈ args.dropLast, escOpen x = false) →
    ∃ s' toks, go s (argsText args ++ rest) = go s' rest ∧ ArgsRel args toks ∧
      finish s' = r' ++ toks ∧
      (SpaceT s r' st → (∀ x, args.getLast? = some x → escOpen x = false) →
        SpaceT s' (r' ++ toks) (args.foldl stickyStep st)) := by
  induction args with
  | nil =>
    intro s r' st rest _ hf _ _
    exact ⟨s, [], by simp [argsText], ArgsRel.nil, by simpa using hf, fun h _ => by simpa using h⟩
  | cons x xs ih =>
    intro s r' st rest hsp hf hok hdl
    obtain ⟨hd, hstep⟩ := (hsp (by simp)).space ((renderArg x.1 x.2 ++ (argsText xs ++ rest)).head?)
    obtain ⟨s1, tok, hgo1, hrel, hfin1, hsp1'⟩ := go_word_anyT x r' st hd (argsText xs ++ rest) (hok x (by simp))
    have hxs : xs ≠ [] → SpaceT s1 (r' ++ [tok]) (stickyStep st x) := by
      intro hne
      apply hsp1'
      apply hdl
      rw [List.dropLast_cons_of_ne_nil hne]; simp
    obtain ⟨s2, toks, hgo2, hrel2, hfin2, hsp2⟩ := ih s1 (r' ++ [tok]) (stickyStep st x) rest hxs hfin1
      (fun y hy => hok y (by simp [hy]))
      (fun y hy => hdl y (by
        cases xs with
        | nil => simp at hy
        | cons z zs => rw [List.dropLast_cons_of_ne_nil (by simp)]; simp [hy]))
    refine ⟨s2, tok :: toks, ?_, ArgsRel.cons hrel hrel2, by simpa [List.append_assoc] using hfin2, ?_⟩
    · have e : argsText (x :: xs) ++ rest = ' ' :: (renderArg x.1 x.2 ++ (argsText xs ++ rest)) := by
        obtain ⟨sty, a⟩ := x
        simp [argsText, List.append_assoc]
      rw [e]
      simp only [go]
      rw [hstep, hgo1, hgo2]
    · intro _ hlast
      have : SpaceT s2 (r' ++ [tok] ++ toks) (xs.foldl stickyStep (stickyStep st x)) := by
        apply hsp2
        · cases xs with
          | nil => exact hsp1' (hlast x rfl)
          | cons z zs => exact hxs (by simp)
        · intro y hy
          cases xs with
          | nil => simp at hy
          | cons z zs => exact hlast y (by rw [List.getLast?_cons_cons]; exact hy)
      simpa [List.append_assoc] using this

theorem argsRel_texts {args : List (Style × Str)} {toks : List Tok} (h : ArgsRel args toks) :
    toks.map (·.2) = args.map (·.2) := by
  induction h with
  | nil => rfl
  | cons h1 _ ih => simp [h1.1, ih]

theorem spaceT_inW (c : Char) (cs : Str) : SpaceT (inW [] (c :: cs) false) [([], c :: cs)] false := by
  refine ⟨fun n => ⟨false, by rw [step_inW_space]; rfl⟩, fun _ n => ⟨false, ?_⟩, fun h => by cases h⟩
  rw [inW_eq_E, step_E_pipe]; simp

theorem go_cmdT (p : Str) (args : List (Style × Str)) (sfx : Str)
    (hw : p.all wordChar = true) (hl : p.any isAlphaA = true) (hok : ∀ x ∈ args, wordOk x = true)
    (hdl : ∀ x ∈ args.dropLast, escOpen x = false) :
    ∃ s' toks, ArgsRel args toks ∧ go {} (renderCmd p args ++ sfx) = go s' sfx ∧ finish s' = ([], p) :: toks ∧
      ((∀ x, args.getLast? = some x → escOpen x = false) → SpaceT s' (([], p) :: toks) (stickyEnd args)) := by
  obtain ⟨c, cs, rfl⟩ : ∃ c cs, p = c :: cs := by
    cases p with
    | nil => simp at hl
    | cons c cs => exact ⟨c, cs, rfl⟩
  simp only [List.all_cons, Bool.and_eq_true] at hw
  have h0 : go {} (renderCmd (c :: cs) args ++ sfx) = go (inW [] (c :: cs) false) (argsText args ++ sfx) := by
    simp only [renderCmd, List.cons_append, go, argsText_eq, List.append_assoc]
    have : ({} : St) = clean [] false := rfl
    rw [this, step_clean_word [] false c _ hw.1, go_word cs [] [c] false _ hw.2]
    simp
  obtain ⟨s', toks, hgo, hrel, hfin, hsp⟩ := go_argsT args (inW [] (c :: cs) false) [([], c :: cs)] false sfx
    (fun _ => spaceT_inW c cs) (by simp [finish, inW]) hok hdl
  exact ⟨s', toks, hrel, by rw [h0, hgo], by simpa using hfin, fun hlast => by simpa [stickyEnd] using hsp (spaceT_inW c cs) hlast⟩

theorem harith_cmd (p : Str) (args : List (Style × Str)) (sfx : Str) (hl : p.any isAlphaA = true) :
    isArithmetic (renderCmd p args ++ sfx) = false := by
  apply any_alpha_not_arith
  simp [renderCmd, List.any_append, hl]

theorem parseLine_of_go {line : Str} {s : St} (ha : isArithmetic line = false) (hgo : go {} line = s) :
    parseLine line = finish s := by
  simp only [parseLine, parseLineInfo, ha, Bool.false_eq_true, ↓reduceIte, hgo]

theorem finish_B_q (r : List Tok) (hd : Bool) : finish (step (B r [] hd) 'q' none) = r ++ [([], ['q'])] := by
  rw [B, step_raw_new r [] [] hd [] 'q' none (by decide +kernel)]
  rfl

theorem styleOk_wordOk {x : Style × Str} (h : styleOk x = true) : wordOk x = true ∧ escOpen x = false := by
  obtain ⟨s, a⟩ := x
  cases s with
  | sq => exact ⟨h, rfl⟩
  | dq => exact ⟨h, rfl⟩
  | esc => exact Bool.noConfusion h

theorem parseLine_renderCmd (p : Str) (args : List (Style × Str))
    (hw : p.all wordChar = true) (hl : p.any isAlphaA = true) (ha : args.all styleOk = true) :
    parseLine (renderCmd p args) = ([], p) :: args.map tokOf := by
  refine parseLine_prog_args (fun x : Style × Str => renderArg x.1 x.2) tokOf p args hw hl fun ⟨s, a⟩ hx => ?_
  have h := List.all_eq_true.mp ha _ hx
  cases s with
  | sq => exact readsAs_sq a (okArg_sq h)
  | dq => exact readsAs_dq a fun c hc => (okArg_dq h c hc).2.2
  | esc => exact Bool.noConfusion h

theorem safeSeg_word (w : Str) (b : Str) (hw : w.all wordChar = true) :
    safeSeg none false (w ++ b) = safeSeg none false b := by
  induction w with
  | nil => rfl
  | cons c cs ih =>
    simp only [List.all_cons, Bool.and_eq_true] at hw
    have a13 := wordChar_ne hw.1 (x := ';') (by decide)
    have a14 := wordChar_ne hw.1 (x := '&') (by decide)
    simp [safeSeg, wordChar_facts hw.1, a13, a14, ih hw.2]

theorem safeSeg_sq (body b : Str) (hb : ∀ c ∈ body, c ≠ '\'') :
    safeSeg (some '\'') false (body ++ '\'' :: b) = safeSeg none false b := by
  induction body with
  | nil => simp [safeSeg]
  | cons c cs ih =>
    have hc := hb c (by simp)
    simp [safeSeg, hc, ih (fun x hx => hb x (by simp [hx]))]

theorem safeSeg_dq (body b : Str) (hb : ∀ c ∈ body, c ≠ '"' ∧ c ≠ '\\') :
    safeSeg (some '"') false (body ++ '"' :: b) = safeSeg none false b := by
  induction body with
  | nil => simp [safeSeg]
  | cons c cs ih =>
    have hc := hb c (by simp)
    simp [safeSeg, hc.1, hc.2, ih (fun x hx => hb x (by simp [hx]))]

theorem safeSeg_esc (a b : Str) : safeSeg none false (renderArg .esc a ++ b) = safeSeg none false b := by
  induction a with
  | nil => simp [renderArg]
  | cons c cs ih =>
    rw [renderEsc_cons]
    by_cases hc : isSpecial c = true
    · simp [hc, safeSeg, ih]
    · have hc' : isSpecial c = false := by simpa using hc
      simp [hc', safeSeg, notSpecial_facts hc', ih]

theorem safeSeg_args (args : List (Style × Str)) (b : Str) (ha : ∀ x ∈ args, wordOk x = true) :
    safeSeg none false (argsText args ++ b) = safeSeg none false b := by
  induction args with
  | nil => rfl
  | cons x xs ih =>
    obtain ⟨s, a⟩ := x
    have hx := ha (s, a) (by simp)
    have ih' := ih (fun y hy => ha y (by simp [hy]))
    have e : argsText ((s, a) :: xs) ++ b = ' ' :: (renderArg s a ++ (argsText xs ++ b)) := by
      simp [argsText, List.append_assoc]
    rw [e]
    cases s with
    | sq =>
      have hb := okArg_sq hx
      simp only [renderArg, List.cons_append, List.nil_append, List.append_assoc]
      simp only [safeSeg]
      simp [safeSeg_sq a _ hb, ih']
    | dq =>
      have hb : ∀ c ∈ a, c ≠ '"' ∧ c ≠ '\\' := fun c hc => ⟨(okArg_dq hx c hc).2.2.2, (okArg_dq hx c hc).2.2.1⟩
      simp only [renderArg, List.cons_append, List.nil_append, List.append_assoc]
      simp only [safeSeg]
      simp [safeSeg_dq a _ hb, ih']
    | esc =>
      simp only [safeSeg]
      simp [safeSeg_esc, ih']


theorem wordChar_nonws (c : Char) (h : wordChar c = true) : isWs c = false := by
  -- word characters have codes 45 … 122, white space lies outside
  have hb : 45 ≤ c.toNat ∧ c.toNat ≤ 122 := by
    simp only [wordChar, isAlphaA, isDigitA, Bool.or_eq_true, Bool.and_eq_true, decide_eq_true_eq, Char.le_def,
      Char.ext_iff, ← UInt32.toNat_inj, UInt32.le_iff_toNat_le, Char.reduceVal, UInt32.reduceToNat] at h
    simp only [Char.toNat]
    omega
  simp only [isWs, Bool.or_eq_false_iff, Bool.and_eq_false_iff, decide_eq_false_iff_not]
  omega

theorem renderEsc_snoc (ys : Str) (d : Char) : ∃ zs, renderArg .esc (ys ++ [d]) = zs ++ [d] := by
  by_cases hc : isSpecial d = true
  · exact ⟨renderArg .esc ys ++ ['\\'], by simp [renderArg, hc]⟩
  · have hc' : isSpecial d = false := by simpa using hc
    exact ⟨renderArg .esc ys, by simp [renderArg, hc']⟩

def lastNoWs (args : List (Style × Str)) : Prop :=
  ∀ a, args.getLast? = some (.esc, a) → ∀ d, a.getLast? = some d → isWs d = false

theorem renderCmd_snoc (p : Str) (args : List (Style × Str)) (hw : p.all wordChar = true) (hne : p ≠ [])
    (ha : ∀ x ∈ args, wordOk x = true) (hl : lastNoWs args) :
    ∃ ys d, renderCmd p args = ys ++ [d] ∧ isWs d = false := by
  rcases List.eq_nil_or_concat args with rfl | ⟨as, x, rfl⟩
  · rcases List.eq_nil_or_concat p with rfl | ⟨ys, d, rfl⟩
    · exact absurd rfl hne
    · refine ⟨ys, d, by simp [renderCmd], ?_⟩
      apply wordChar_nonws
      exact (List.all_eq_true.mp hw) d (by simp)
  · obtain ⟨s, a⟩ := x
    have hx : wordOk (s, a) = true := ha (s, a) (by simp)
    cases s with
    | sq => exact ⟨p ++ argsText as ++ ' ' :: '\'' :: a, '\'', by simp [renderCmd, argsText, renderArg, List.append_assoc], by decide⟩
    | dq => exact ⟨p ++ argsText as ++ ' ' :: '"' :: a, '"', by simp [renderCmd, argsText, renderArg, List.append_assoc], by decide⟩
    | esc =>
      simp only [wordOk, Bool.and_eq_true, Bool.not_eq_true', List.isEmpty_eq_false_iff] at hx
      rcases List.eq_nil_or_concat a with rfl | ⟨ys, d, rfl⟩
      · exact absurd rfl hx.1
      · rw [List.concat_eq_append] at *
        obtain ⟨zs, hz⟩ := renderEsc_snoc ys d
        refine ⟨p ++ argsText as ++ ' ' :: zs, d, ?_, hl (ys ++ [d]) (by simp) d (by simp)⟩
        simp [renderCmd, argsText, hz, List.append_assoc]

theorem styleOk_lastNoWs {args : List (Style × Str)} (ha : args.all styleOk = true) : lastNoWs args :=
  fun _ hl => Bool.noConfusion (List.all_eq_true.mp ha _ (List.mem_of_getLast? hl))

/-- List splitting on a rendered command followed by `sfx` (which stays with it), padding `pad` (trimmed off) and
further list segments `rest`: the first item is the command with `sfx`. -/
theorem lineToCmds_first (p : Str) (args : List (Style × Str)) (sfx pad : Str) (rest : List (ListOp × Str))
    (hw : p.all wordChar = true) (hne : p ≠ []) (ha : ∀ x ∈ args, wordOk x = true)
    (hsafe : safeSeg none false (sfx ++ pad) = true)
    (htrim : trim (renderCmd p args ++ (sfx ++ pad)) = renderCmd p args ++ sfx)
    (hrest : rest.all (fun x => segOk x.2) = true) :
    lineToCmds (renderCmd p args ++ (sfx ++ (pad ++ renderRest rest))) = (renderCmd p args ++ sfx) :: itemsRest rest := by
  obtain ⟨c, cs, rfl⟩ : ∃ c cs, p = c :: cs := by
    cases p with
    | nil => exact absurd rfl hne
    | cons c cs => exact ⟨c, cs, rfl⟩
  have hcw : wordChar c = true := by
    simp only [List.all_cons, Bool.and_eq_true] at hw; exact hw.1
  let pr : Prog := { first := renderCmd (c :: cs) args ++ (sfx ++ pad), rest := rest }
  have hgd : C03.guard pr = true := by
    have s1 : safeSeg none false (renderCmd (c :: cs) args ++ (sfx ++ pad)) = true := by
      simp only [renderCmd, List.append_assoc]
      rw [safeSeg_word _ _ hw]
      exact (safeSeg_args args _ ha).trans hsafe
    have s2 : isListSep (renderCmd (c :: cs) args ++ sfx) = false := by
      have a10 := wordChar_ne hcw (x := '|') (by decide)
      have a13 := wordChar_ne hcw (x := ';') (by decide)
      have a14 := wordChar_ne hcw (x := '&') (by decide)
      simp [renderCmd, isListSep, a10, a13, a14]
    have s3 : renderCmd (c :: cs) args ++ sfx ≠ [] := by simp [renderCmd]
    simp only [C03.guard, pr, Bool.and_eq_true]
    exact ⟨by simp [segOk, s1, htrim, s2, s3], hrest⟩
  have h := lineToCmds_render pr hgd
  simp only [render, items, pr, htrim, List.append_assoc] at h
  exact h

theorem trim_renderCmd (p : Str) (args : List (Style × Str)) (hw : p.all wordChar = true) (hne : p ≠ [])
    (ha : ∀ x ∈ args, wordOk x = true) (hl : lastNoWs args) :
    trim (renderCmd p args) = renderCmd p args ∧ trim (renderCmd p args ++ [' ']) = renderCmd p args := by
  obtain ⟨ys, d, hsn, hd⟩ := renderCmd_snoc p args hw hne ha hl
  obtain ⟨c, cs, rfl⟩ : ∃ c cs, p = c :: cs := by
    cases p with
    | nil => exact absurd rfl hne
    | cons c cs => exact ⟨c, cs, rfl⟩
  have hc : isWs c = false := wordChar_nonws c (by simp only [List.all_cons, Bool.and_eq_true] at hw; exact hw.1)
  exact ⟨trim_id c d _ ys hsn hc hd, trim_snoc_ws c d ' ' _ ys hsn hc hd (by decide)⟩

theorem trim_renderCmd_sfx (p : Str) (args : List (Style × Str)) (hw : p.all wordChar = true) (hne : p ≠ [])
    (sfx : Str) (d : Char) (hd : isWs d = false) :
    trim (renderCmd p args ++ (sfx ++ [d])) = renderCmd p args ++ (sfx ++ [d]) := by
  obtain ⟨c, cs, rfl⟩ : ∃ c cs, p = c :: cs := by
    cases p with
    | nil => exact absurd rfl hne
    | cons c cs => exact ⟨c, cs, rfl⟩
  have hc : isWs c = false := wordChar_nonws c (by simp only [List.all_cons, Bool.and_eq_true] at hw; exact hw.1)
  exact trim_id c d _ (renderCmd (c :: cs) args ++ sfx) (by simp [renderCmd, List.append_assoc]) hc hd

def pipeSfx (ctx : Ctx) : Str := if ctx = .pipe then [' ', '|', ' ', 'q'] else []

theorem lineToCmds_firstSpaced (p : Str) (args : List (Style × Str)) (ctx : Ctx)
    (hw : p.all wordChar = true) (hne : p ≠ []) (ha : ∀ x ∈ args, wordOk x = true)
    (hl : ctx ≠ .pipe → lastNoWs args) :
    ∃ rest, lineToCmds (renderLine p args ctx) = (renderCmd p args ++ pipeSfx ctx) :: rest := by
  have spaced : ctx ≠ .pipe → ∀ o : ListOp, ∃ rest,
      lineToCmds (renderCmd p args ++ ([] ++ ([' '] ++ renderRest [(o, " q".toList)]))) = (renderCmd p args ++ []) :: rest :=
    fun hc o => ⟨_, lineToCmds_first p args [] [' '] [(o, " q".toList)] hw hne ha (by decide +kernel)
      (by simpa using (trim_renderCmd p args hw hne ha (hl hc)).2)
      (by rw [List.all_cons, List.all_nil, Bool.and_true]; exact (by decide +kernel : segOk " q".toList = true))⟩
  cases ctx with
  | alone =>
    exact ⟨_, lineToCmds_first p args [] [] [] hw hne ha (by decide +kernel)
      (by simpa using (trim_renderCmd p args hw hne ha (hl nofun)).1) rfl⟩
  | pipe =>
    exact ⟨_, lineToCmds_first p args [' ', '|', ' ', 'q'] [] [] hw hne ha (by decide +kernel)
      (trim_renderCmd_sfx p args hw hne [' ', '|', ' '] 'q' (by decide +kernel)) rfl⟩
  | semi => exact spaced nofun .semi
  | and => exact spaced nofun .and
  | or => exact spaced nofun .or

end Cicada.C01
