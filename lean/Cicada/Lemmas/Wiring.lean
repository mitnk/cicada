import Cicada.Lemmas.KernelChild
/-!
# Which pipe ends a plain pipeline stage ends up with (for C02)
-/
namespace Cicada.Pipeline
open Cicada.Kernel Cicada.Kernel.Table

/-- the table holds, for the `j`-th pipe of the list, the read end of pipe `k + j` and its write end -/
def Wired : Table → List Fds → Nat → Prop
  | _, [], _ => True
  | t, p :: ps, k => t p.1 = some { obj := .pipeR k } ∧ t p.2 = some { obj := .pipeW k } ∧ Wired t ps (k + 1)

theorem wired_congr {t t' : Table} : ∀ (ps : List Fds) (k : Nat), (∀ x ∈ fdsOf ps, t' x = t x) → Wired t ps k → Wired t' ps k := by
  intro ps
  induction ps with
  | nil => intro _ _ _; trivial
  | cons p ps ih =>
    intro k h hw
    obtain ⟨h1, h2, h3⟩ := hw
    refine ⟨?_, ?_, ih (k + 1) (fun x hx => h x ?_) h3⟩
    · rw [h p.1 (mem_fdsOf.mpr ⟨p, List.mem_cons_self, Or.inl rfl⟩)]; exact h1
    · rw [h p.2 (mem_fdsOf.mpr ⟨p, List.mem_cons_self, Or.inr rfl⟩)]; exact h2
    · obtain ⟨q, hq, hxq⟩ := mem_fdsOf.mp hx
      exact mem_fdsOf.mpr ⟨q, List.mem_cons_of_mem _ hq, hxq⟩

theorem wired_append {t : Table} : ∀ (ps : List Fds) (k : Nat) (q : Fds), Wired t ps k →
    t q.1 = some { obj := .pipeR (k + ps.length) } → t q.2 = some { obj := .pipeW (k + ps.length) } → Wired t (ps ++ [q]) k := by
  intro ps
  induction ps with
  | nil => intro k q _ h1 h2; exact ⟨by simpa using h1, by simpa using h2, trivial⟩
  | cons p ps ih =>
    intro k q hw h1 h2
    obtain ⟨a, b, c⟩ := hw
    refine ⟨a, b, ih (k + 1) q c ?_ ?_⟩
    · rw [h1]; simp; omega
    · rw [h2]; simp; omega

theorem wired_occupied {t : Table} : ∀ (ps : List Fds) (k : Nat), Wired t ps k → ∀ x ∈ fdsOf ps, (t x).isSome := by
  intro ps
  induction ps with
  | nil => intro _ _ x hx; simp [fdsOf] at hx
  | cons p ps ih =>
    intro k hw x hx
    obtain ⟨a, b, c⟩ := hw
    obtain ⟨q, hq, hxq⟩ := mem_fdsOf.mp hx
    rcases List.mem_cons.mp hq with rfl | hq
    · rcases hxq with rfl | rfl <;> simp [a, b]
    · exact ih (k + 1) c x (mem_fdsOf.mpr ⟨q, hq, hxq⟩)

/-- the pipe-creation loop numbers the pipes consecutively and never hands out a descriptor twice -/
theorem mkPipes_wired (lim : Nat) (k0 : Nat) : ∀ (n : Nat) (t : Table) (acc : List Fds),
    Wired t acc k0 → (fdsOf acc).Nodup →
    Wired (mkPipes lim n t (k0 + acc.length) acc).1 (mkPipes lim n t (k0 + acc.length) acc).2.2.1 k0 ∧
    (fdsOf (mkPipes lim n t (k0 + acc.length) acc).2.2.1).Nodup := by
  intro n
  induction n with
  | zero => intro t acc hw hn; exact ⟨hw, hn⟩
  | succ n ih =>
    intro t acc hw hn
    unfold mkPipes
    cases hp : t.pipe lim (k0 + acc.length) with
    | none => exact ⟨hw, hn⟩
    | some q =>
      obtain ⟨t1, r, w⟩ := q
      simp only
      obtain ⟨hr, hwf, hne, rfl⟩ := pipe_spec hp
      have hocc := wired_occupied acc k0 hw
      have hr' : r ∉ fdsOf acc := fun h => by have := hocc r h; simp [hr] at this
      have hw' : w ∉ fdsOf acc := fun h => by have := hocc w h; simp [hwf] at this
      have := ih ((t.set r { obj := .pipeR (k0 + acc.length) }).set w { obj := .pipeW (k0 + acc.length) }) (acc ++ [(r, w)]) ?_ ?_
      · simpa [Nat.add_assoc] using this
      · apply wired_append
        · apply wired_congr acc k0 _ hw
          intro x hx
          have h1 : x ≠ r := fun e => hr' (e ▸ hx)
          have h2 : x ≠ w := fun e => hw' (e ▸ hx)
          simp [h1, h2]
        · simp [hne]
        · simp
      · rw [fdsOf_append]
        simp only [fdsOf, List.flatMap_cons, List.flatMap_nil, List.append_nil]
        rw [List.nodup_append]
        refine ⟨hn, by simp [hne], ?_⟩
        intro a ha b hb
        simp only [List.mem_cons, List.not_mem_nil, or_false] at hb
        rcases hb with rfl | rfl
        · exact fun e => hr' (e ▸ ha)
        · exact fun e => hw' (e ▸ ha)

def _root_.Cicada.Command.plain (c : Command) : Prop := c.redirectsTo = [] ∧ c.redirectFrom = none

/-- what a stage without redirections holds on 0, 1, 2 after the first phase: the neighbouring pipe ends where there
are neighbours, the inherited descriptors otherwise -/
theorem childPipes_std (prev cur : Option Fds) (right : List Fds) (tf : Table) (eo ei : Ent)
    (hprev : ∀ p, prev = some p → tf p.1 = some ei)
    (hcur : ∀ c, cur = some c → tf c.2 = some eo)
    (hge : ∀ x ∈ prevFds prev ++ optFds cur ++ fdsOf right, 3 ≤ x)
    (hnd : (prevFds prev ++ optFds cur ++ fdsOf right).Nodup) :
    let t := childPipes prev cur right (none, none) tf
    t 0 = (if prev.isSome then some { ei with cx := false } else tf 0) ∧
    t 1 = (if cur.isSome then some { eo with cx := false } else tf 1) ∧
    t 2 = tf 2 := by
  rw [childPipes_eq]
  have hA : ∀ x, x ∉ fdsOf right → (stepCap cur (none, none) (stepRight right tf)) x = tf x := by
    have hcap : ∀ t, stepCap cur (none, none) t = t := fun t => by unfold stepCap; split <;> rfl
    rw [hcap]
    -- invariant: only descriptors of `fdsOf right` are still to be closed, and outside them the table is `tf`
    exact (closePairs_head (I := fun t O => (∀ c ∈ O, c ∈ fdsOf right) ∧ ∀ x, x ∉ fdsOf right → t x = tf x)
      (fun h => ⟨fun c hc => h.1 c (List.mem_cons_of_mem _ hc), fun x hx => by
        rw [close_apply, if_neg (fun e : x = _ => hx (e ▸ h.1 _ List.mem_cons_self))]; exact h.2 x hx⟩)
      right (O := []) ⟨fun c hc => by simpa using hc, fun _ _ => rfl⟩).2
  generalize stepCap cur (none, none) (stepRight right tf) = tA at hA
  have hlow : ∀ x, x < 3 → tA x = tf x :=
    fun x hx => hA x (fun hm => by have := hge x (List.mem_append.mpr (Or.inr hm)); omega)
  have hP : ∀ p, prev = some p → 3 ≤ p.1 ∧ tA p.1 = some ei := by
    rintro p rfl
    have hnr : p.1 ∉ fdsOf right := fun hm => (List.nodup_append.mp hnd).2.2 p.1 (by simp [prevFds]) p.1 hm rfl
    exact ⟨hge p.1 (by simp [prevFds]), (hA _ hnr).trans (hprev p rfl)⟩
  have hC : ∀ c, cur = some c → 3 ≤ c.1 ∧ 3 ≤ c.2 ∧ tA c.2 = some eo ∧ ∀ p, prev = some p → c.2 ≠ p.1 := by
    rintro c rfl
    have hnr : c.2 ∉ fdsOf right := fun hm => (List.nodup_append.mp hnd).2.2 c.2 (by simp [optFds]) c.2 hm rfl
    refine ⟨hge c.1 (by simp [optFds]), hge c.2 (by simp [optFds]), (hA _ hnr).trans (hcur c rfl), ?_⟩
    rintro p rfl e
    exact (List.nodup_append.mp (List.nodup_append.mp hnd).1).2.2 p.1 (by simp [prevFds]) c.2 (by simp [optFds]) e.symm
  -- `dup2(src, dst)` then `close(src)`, seen from any other descriptor
  have step : ∀ {t : Table} {src dst : Nat} {e : Ent}, t src = some e → 3 ≤ src → dst < 3 → ∀ x, x ≠ src →
      ((t.dup2 src dst).close src) x = if x = dst then some { e with cx := false } else t x := by
    intro t src dst e hs h3 hd x hx
    rw [close_apply, if_neg hx, dup2_of_some hs (by omega)]
  -- the read end of the previous pipe goes onto 0
  have hB : ∀ x, (∀ p, prev = some p → x ≠ p.1) →
      stepPrev prev tA x = if x = 0 ∧ prev.isSome then some { ei with cx := false } else tA x := by
    intro x hx
    cases prev with
    | none => simp [stepPrev]
    | some p =>
      simp only [stepPrev]
      rw [step (hP p rfl).2 (hP p rfl).1 (by omega) x (hx p rfl)]
      simp
  generalize stepPrev prev tA = tB at hB ⊢
  have hB3 : ∀ x, x < 3 → tB x = if x = 0 ∧ prev.isSome then some { ei with cx := false } else tf x := by
    intro x hx
    rw [hB x (fun p hp => by have := (hP p hp).1; omega), hlow x hx]
  -- and the write end of the stage's own pipe onto 1
  cases cur with
  | none =>
    simp only [stepCur]
    exact ⟨by simpa using hB3 0 (by omega), by simpa using hB3 1 (by omega), by simpa using hB3 2 (by omega)⟩
  | some c =>
    obtain ⟨hc1, hc2, hsrc, hcp⟩ := hC c rfl
    have hsrcB : tB c.2 = some eo := by
      rw [hB c.2 hcp, if_neg (fun h => by omega), hsrc]
    have hv : ∀ x, x < 3 → (stepCur (some c) tB) x = if x = 1 then some { eo with cx := false } else tB x := by
      intro x hx
      simp only [stepCur, close_apply, show x ≠ c.1 by omega, ↓reduceIte]
      exact step hsrcB hc2 (by omega) x (by omega)
    refine ⟨?_, ?_, ?_⟩
    · rw [hv 0 (by omega), hB3 0 (by omega)]; simp
    · rw [hv 1 (by omega)]; simp
    · rw [hv 2 (by omega), hB3 2 (by omega)]; simp

end Cicada.Pipeline
