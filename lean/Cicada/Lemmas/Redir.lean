import Cicada.Model.ParserLine
/-!
# `tokens_to_redirections` reads every accepted spelling of a redirection back as the intended triple
-/
namespace Cicada.RedirParse

/-- the descriptor prefix: nothing (= 1), `1` or `2` -/
inductive FdP | none | one | two
  deriving DecidableEq, Repr

def FdP.text : FdP → Str
  | .none => []
  | .one => ['1']
  | .two => ['2']

def FdP.fd : FdP → Str
  | .none => ['1']
  | .one => ['1']
  | .two => ['2']

inductive Item where
  /-- an ordinary argument (any quoting tag); unquoted ones contain no `>` -/
  | word (sep w : Str)
  /-- `n> f`, `n>> f`: attached (`n>f`) or with a blank after the operator (two tokens) -/
  | file (p : FdP) (append spaced : Bool) (tsep target : Str)
  /-- `n>&1`, `n>&2` with prefix none / `1` / `2`: among them `2>&1`, `1>&2`, `>&2` -/
  | dup (p : FdP) (to : Nat)
  deriving Repr

def opText (append : Bool) : Str := if append then ['>', '>'] else ['>']

def Item.render : Item → List Tok
  | .word sep w => [(sep, w)]
  | .file p a false _ tgt => [([], p.text ++ opText a ++ tgt)]
  | .file p a true tsep tgt => [([], p.text ++ opText a), (tsep, tgt)]
  | .dup p to => [([], p.text ++ ['>', '&'] ++ (if to = 1 then ['1'] else ['2']))]

def Item.redir : Item → Option Redir
  | .word _ _ => none
  | .file p a _ _ tgt => some (p.fd, opText a, tgt)
  | .dup p to => some (p.fd, ['>'], ['&'] ++ (if to = 1 then ['1'] else ['2']))

def Item.arg : Item → Option Tok
  | .word sep w => some (sep, w)
  | _ => none

/-- each clause mirrors one test of `tokens_to_redirections` (parsers/parser_line.rs:475) -/
def Item.ok : Item → Bool
  | .word sep w => sep ≠ [] || !w.contains '>'
  | .file _ _ false _ tgt => tgt ≠ [] && tgt.all (· ≠ '>') && tgt.head? ≠ some '&'
  | .file _ _ true tsep tgt => !(tsep = [] && tgt.head? = some '&')
  | .dup _ to => to = 1 || to = 2

/-- `tgt = []`: the operator ends the word and the target is the next token -/
theorem splitRedirWord_parts (pre : Str) (a : Bool) (tgt : Str) (hpre : ∀ c ∈ pre, c ≠ '>') (htgt : tgt.all (· ≠ '>') = true) :
    splitRedirWord (pre ++ opText a ++ tgt) = some (pre, opText a, tgt) := by
  have hsplit : ∀ rest : Str, (pre ++ '>' :: rest).takeWhile (· ≠ '>') = pre ∧
      (pre ++ '>' :: rest).dropWhile (· ≠ '>') = '>' :: rest := by
    intro rest
    induction pre with
    | nil => simp
    | cons c pre ih =>
      have hc : decide (c ≠ '>') = true := decide_eq_true (hpre c List.mem_cons_self)
      have := ih (fun x hx => hpre x (List.mem_cons_of_mem _ hx))
      rw [List.cons_append, List.takeWhile_cons_of_pos (p := fun x => decide (x ≠ '>')) hc,
        List.dropWhile_cons_of_pos (p := fun x => decide (x ≠ '>')) hc, this.1, this.2]
      exact ⟨rfl, rfl⟩
  have hw : pre ++ opText a ++ tgt = pre ++ '>' :: ((if a then ['>'] else []) ++ tgt) := by
    cases a <;> simp [opText]
  unfold splitRedirWord
  rw [hw, (hsplit _).1, (hsplit _).2]
  cases a with
  | false =>
    cases tgt with
    | nil => rfl
    | cons c r =>
      have hc : c ≠ '>' := by simp at htgt; exact htgt.1
      simp only [Bool.false_eq_true, ↓reduceIte, List.nil_append]
      split
      · rename_i heq; cases heq
      · rename_i heq; cases heq; exact absurd rfl hc
      · rw [if_pos htgt]; rfl
  | true =>
    cases tgt with
    | nil => rfl
    | cons c r =>
      have h' : ¬ c = '>' ∧ ∀ x ∈ r, ¬ x = '>' := by simpa using htgt
      have h'' : ¬ '>' ∈ r := fun hm => h'.2 _ hm rfl
      simp [opText, h'.1, h'']

theorem fdp_text_no_gt (p : FdP) : ∀ c ∈ p.text, c ≠ '>' := by
  cases p <;> simp [FdP.text]

theorem isDigitU_1 : isDigitU '1' = true := by decide +kernel
theorem isDigitU_2 : isDigitU '2' = true := by decide +kernel

theorem reAllDigitsU_fdp (p : FdP) : reAllDigitsU p.text = decide (p ≠ .none) := by
  cases p <;> simp [reAllDigitsU, FdP.text, isDigitU_1, isDigitU_2]

theorem contains_gt (p : FdP) (a : Bool) (rest : Str) : (p.text ++ opText a ++ rest).contains '>' = true := by
  cases a <;> simp [opText]

theorem rad_nil : reAllDigitsU [] = false := by simp [reAllDigitsU]
theorem rad_1 : reAllDigitsU ['1'] = true := by simp [reAllDigitsU, isDigitU_1]
theorem rad_2 : reAllDigitsU ['2'] = true := by simp [reAllDigitsU, isDigitU_2]

theorem redirStep_word (st : RState) (sep w : Str) (hc : st.cont = false) (hok : (Item.word sep w).ok = true) :
    redirStep st (sep, w) = .ok { st with toks := st.toks ++ [(sep, w)] } := by
  unfold redirStep
  simp only [Item.ok, Bool.or_eq_true, decide_eq_true_eq, Bool.not_eq_eq_eq_not, Bool.not_true] at hok
  by_cases hs : sep = []
  · subst hs
    have hw : '>' ∉ w := by
      rcases hok with h | h
      · exact absurd rfl h
      · simpa using h
    simp [hc, hw]
  · simp [hs, hc]

/-- `hnb`: the negation of the Rust test that rejects a target starting with `&` other than `&1` / `&2` -/
theorem redirStep_redir (st : RState) (p : FdP) (a : Bool) (tgt : Str) (hc : st.cont = false)
    (h1 : tgt ≠ []) (h2 : tgt.all (· ≠ '>') = true)
    (hnb : ¬ (tgt.head? = some '&' ∧ tgt ≠ ['&', '1'] ∧ tgt ≠ ['&', '2'])) :
    redirStep st ([], p.text ++ opText a ++ tgt) = .ok { st with redirs := st.redirs ++ [(p.fd, opText a, tgt)] } := by
  unfold redirStep
  simp only [ne_eq, not_true_eq_false, false_and, ↓reduceIte, hc, Bool.false_eq_true, contains_gt, Bool.not_true,
    splitRedirWord_parts p.text a tgt (fdp_text_no_gt p) h2, h1, not_false_eq_true, hnb]
  cases p <;> simp [FdP.text, FdP.fd, rad_nil, rad_1, rad_2]

theorem mem_op (a : Bool) : '>' ∈ opText a := by cases a <;> simp [opText]

theorem redirStep_spaced1 (st : RState) (p : FdP) (a : Bool) (hc : st.cont = false) :
    redirStep st ([], p.text ++ opText a) = .ok { st with cont := true, s1 := p.text, s2 := opText a } := by
  have hs := splitRedirWord_parts p.text a [] (fdp_text_no_gt p) rfl
  rw [List.append_nil] at hs
  unfold redirStep
  simp [hc, hs, mem_op]

theorem redirStep_spaced2 (st : RState) (p : FdP) (op tsep tgt : Str) (hc : st.cont = true) (h1 : st.s1 = p.text) (h2 : st.s2 = op)
    (hok : ¬ (tsep = [] ∧ tgt.head? = some '&')) :
    redirStep st (tsep, tgt) = .ok { st with redirs := st.redirs ++ [(p.fd, op, tgt)], cont := false } := by
  unfold redirStep
  simp only [hc, Bool.not_true, Bool.false_eq_true, and_false, ↓reduceIte, hok, h1, h2]
  cases p <;> simp [FdP.text, FdP.fd, rad_nil, rad_1, rad_2]

theorem redirGo_item (it : Item) (st : RState) (ts : List Tok) (hc : st.cont = false) (hok : it.ok = true) :
    ∃ st2, redirGo st (it.render ++ ts) = redirGo st2 ts ∧ st2.cont = false ∧
      st2.toks = st.toks ++ it.arg.toList ∧ st2.redirs = st.redirs ++ it.redir.toList := by
  cases it with
  | word sep w =>
    exact ⟨{ st with toks := st.toks ++ [(sep, w)] }, by simp [Item.render, redirGo, redirStep_word st sep w hc hok], hc, rfl,
      (List.append_nil _).symm⟩
  | dup p to =>
    have hd : (if to = 1 then ['1'] else ['2'] : Str) = ['1'] ∨ (if to = 1 then ['1'] else ['2'] : Str) = ['2'] := by
      split
      · exact Or.inl rfl
      · exact Or.inr rfl
    have hstep := redirStep_redir st p false (['&'] ++ (if to = 1 then ['1'] else ['2'])) hc (by simp)
      (by rcases hd with h | h <;> rw [h] <;> rfl) (by rcases hd with h | h <;> rw [h] <;> simp)
    refine ⟨{ st with redirs := st.redirs ++ [(p.fd, ['>'], ['&'] ++ (if to = 1 then ['1'] else ['2']))] }, ?_, hc,
      (List.append_nil _).symm, rfl⟩
    have hw : p.text ++ ['>', '&'] ++ (if to = 1 then ['1'] else ['2']) =
        p.text ++ opText false ++ (['&'] ++ (if to = 1 then ['1'] else ['2'])) := by simp [opText]
    simp only [Item.render, List.cons_append, List.nil_append, redirGo]
    rw [hw, hstep]
    rfl
  | file p a spaced tsep tgt =>
    cases spaced with
    | false =>
      simp only [Item.ok, Bool.and_eq_true, decide_eq_true_eq, ne_eq] at hok
      obtain ⟨⟨h1, h2⟩, h3⟩ := hok
      have hstep := redirStep_redir st p a tgt hc h1 h2 (fun h => by simp [h.1] at h3)
      exact ⟨{ st with redirs := st.redirs ++ [(p.fd, opText a, tgt)] },
        by simp only [Item.render, List.cons_append, List.nil_append, redirGo, hstep], hc, (List.append_nil _).symm, rfl⟩
    | true =>
      have hok2 : ¬ (tsep = [] ∧ tgt.head? = some '&') := by
        simp only [Item.ok, Bool.not_eq_eq_eq_not, Bool.not_true, Bool.and_eq_false_imp, decide_eq_true_eq, decide_eq_false_iff_not] at hok
        exact fun h => hok h.1 h.2
      refine ⟨{ st with cont := false, s1 := p.text, s2 := opText a, redirs := st.redirs ++ [(p.fd, opText a, tgt)] }, ?_, rfl,
        (List.append_nil _).symm, rfl⟩
      simp only [Item.render, List.cons_append, List.nil_append, redirGo, redirStep_spaced1 st p a hc]
      rw [redirStep_spaced2 { st with cont := true, s1 := p.text, s2 := opText a } p (opText a) tsep tgt rfl rfl rfl hok2]

/-- **every accepted spelling is read back as the intended triple, every other token is left in place**:
for every sequence of ordinary arguments and redirections (attached or spaced, with or without descriptor prefix,
truncate or append, `n>&1` / `n>&2`), in any order -/
theorem redirGo_items : ∀ (items : List Item) (st : RState), st.cont = false → (∀ it ∈ items, it.ok = true) →
    ∃ st', redirGo st (items.flatMap Item.render) = .ok st' ∧ st'.cont = false ∧
      st'.toks = st.toks ++ items.filterMap Item.arg ∧ st'.redirs = st.redirs ++ items.filterMap Item.redir := by
  intro items
  induction items with
  | nil => intro st hc _; exact ⟨st, rfl, hc, by simp, by simp⟩
  | cons it rest ih =>
    intro st hc hok
    obtain ⟨st2, hgo, hc2, ht, hr⟩ := redirGo_item it st (rest.flatMap Item.render) hc (hok it List.mem_cons_self)
    obtain ⟨st', h1, h2, h3, h4⟩ := ih st2 hc2 (fun x hx => hok x (List.mem_cons_of_mem _ hx))
    refine ⟨st', by rw [List.flatMap_cons, hgo, h1], h2, ?_, ?_⟩
    · rw [h3, ht, List.append_assoc, List.filterMap_cons]
      cases it.arg <;> rfl
    · rw [h4, hr, List.append_assoc, List.filterMap_cons]
      cases it.redir <;> rfl

/-- **`tokens_to_redirections` on every well-formed list**: the redirections come back as exactly the intended triples,
in order, and the other tokens are returned untouched, in order -/
theorem tokensToRedirections_items (items : List Item) (hok : ∀ it ∈ items, it.ok = true) :
    tokensToRedirections (items.flatMap Item.render) = .ok (items.filterMap Item.arg, items.filterMap Item.redir) := by
  obtain ⟨st', h1, h2, h3, h4⟩ := redirGo_items items {} rfl hok
  unfold tokensToRedirections
  rw [h1]
  simp [h2, h3, h4]

end Cicada.RedirParse
