import Cicada.Spec.C03
/-!
# C03 — `line_to_cmds` on a rendered program, and the loop on its items

One induction over the program gives the splitting for the weakest guard (`guardBg`) and any ignored tail (`InertTail`);
the plain statements are its instances.  The loop of `execute.rs` on the resulting items is the reference semantics.
-/
namespace Cicada.C03
open Cicada Cicada.L2C

def isQuoteChar (c : Char) : Prop := c = '\'' ∨ c = '"' ∨ c = '`'

theorem step_escaped (r : List Str) (sep t : Str) (c : Char) (n : Option Char) :
    step { result := r, sep := sep, token := t, bs := true } c n = { result := r, sep := sep, token := t ++ ['\\', c] } := rfl

theorem step_outside (r : List Str) (t : Str) (c : Char) (n : Option Char) :
    step { result := r, token := t } c n =
      if c = '\\' then { result := r, token := t, bs := true }
      else if c = '#' then { result := r, token := t, stop := true }
      else if c = '\'' ∨ c = '"' ∨ c = '`' then { result := r, sep := [c], token := t ++ [c] }
      else if c = '&' ∨ c = '|' then
        if n = none ∨ n ≠ some c then { result := r, token := t ++ [c] } else { result := r, sep := [c], token := t }
      else if c = ';' then { result := pushTrim r t ++ [[';']] }
      else { result := r, token := t ++ [c] } := by
  simp [step]

theorem step_quoted (r : List Str) (t : Str) (q c : Char) (n : Option Char) (hq : isQuoteChar q) :
    step { result := r, sep := [q], token := t } c n =
      if c = q then { result := r, token := t ++ [c] }
      else if c = '\\' ∧ q ≠ '\'' then { result := r, sep := [q], token := t, bs := true }
      else { result := r, sep := [q], token := t ++ [c] } := by
  by_cases h : c = q
  · subst h
    rcases hq with rfl | rfl | rfl <;> simp [step]
  · have h' : ¬ q = c := fun e => h e.symm
    simp [step, h, h']

theorem go_cons (s : S) (c : Char) (l : Str) : go s (c :: l) = go (step s c l.head?) l := rfl

/-- a pending backslash is not yet in `token` (`step` appends it together with the character it escapes): hence the `if bs` -/
theorem go_safe (q : Option Char) (bs : Bool) (seg : Str) (r : List Str) (t rest : Str) (h : safeSeg q bs seg = true)
    (hq : ∀ c, q = some c → isQuoteChar c) :
    go { result := r, sep := q.toList, token := t, bs := bs } (seg ++ rest) =
      go { result := r, token := t ++ (if bs then ['\\'] else []) ++ seg } rest := by
  fun_induction safeSeg q bs seg generalizing t with
  | case1 q bs =>
    cases q <;> cases bs <;> simp at h
    simp
  | case2 q c cs ih =>
    rw [List.cons_append, go_cons, step_escaped, ih _ h hq]
    simp
  | case3 cs ih =>
    rw [List.cons_append, go_cons, Option.toList, step_outside, if_pos rfl]
    exact (ih _ h hq).trans (by simp)
  | case4 c cs c1 c2 ih =>
    have c3 : c ≠ '#' := by rcases c2 with e | e | e <;> (subst e; decide)
    rw [List.cons_append, go_cons, Option.toList, step_outside, if_neg c1, if_neg c3, if_pos c2]
    exact (ih _ h (by intro c' hc'; cases hc'; exact c2)).trans (by simp)
  | case5 => cases h
  | case6 => cases h
  | case7 => cases h
  | case8 c c1 c2 c3 c4 d ds c5 ih =>
    have c6 : (d :: ds ++ rest).head? = none ∨ (d :: ds ++ rest).head? ≠ some c := by simp [c5]
    rw [List.cons_append, go_cons, Option.toList, step_outside, if_neg c1, if_neg (fun e => c3 (.inl e)), if_neg c2, if_pos c4,
      if_pos c6]
    exact (ih _ h hq).trans (by simp)
  | case9 c cs c1 c2 c3 c4 ih =>
    rw [List.cons_append, go_cons, Option.toList, step_outside, if_neg c1, if_neg (fun e => c3 (.inl e)), if_neg c2, if_neg c4,
      if_neg (fun e => c3 (.inr e))]
    exact (ih _ h hq).trans (by simp)
  | case10 c cs ih =>
    rw [List.cons_append, go_cons, Option.toList, step_quoted _ _ _ _ _ (hq c rfl), if_pos rfl]
    exact (ih _ h (by intro c' hc'; cases hc')).trans (by simp)
  | case11 q c cs c1 c2 ih =>
    rw [List.cons_append, go_cons, Option.toList, step_quoted _ _ _ _ _ (hq q rfl), if_neg c1, if_pos c2]
    exact (ih _ h hq).trans (by simp [c2.1])
  | case12 q c cs c1 c2 ih =>
    rw [List.cons_append, go_cons, Option.toList, step_quoted _ _ _ _ _ (hq q rfl), if_neg c1, if_neg c2]
    exact (ih _ h hq).trans (by simp)
theorem go_safe_outside (seg : Str) (r : List Str) (t rest : Str) (h : safeSeg none false seg = true) :
    go { result := r, token := t } (seg ++ rest) = go { result := r, token := t ++ seg } rest :=
  (go_safe none false seg r t rest h (by intro c hc; cases hc)).trans (by simp)

theorem go_stopped (l : Str) : ∀ (s : S), s.stop = true → go s l = s := by
  induction l with
  | nil => intro s _; rfl
  | cons c cs ih =>
    intro s h
    have e : step s c cs.head? = s := by simp [step, h]
    rw [go_cons, e]
    exact ih s h

/-- for `&&` and `||` the first character is parked in `sep`, the field that also holds an open quote, so the second step
is in neither mode above -/
theorem go_op (r : List Str) (t : Str) (o : ListOp) (rest : Str) :
    go { result := r, token := t } (o.text ++ rest) = go { result := pushTrim r t ++ [o.text] } rest := by
  cases o with
  | semi => simp [ListOp.text, go_cons, step_outside]
  | and => simp [ListOp.text, go_cons, step]
  | or => simp [ListOp.text, go_cons, step]

/-- a text after the last segment that `line_to_cmds` ignores -/
def InertTail (tail : Str) : Prop :=
  ∀ (r : List Str) (t : Str), (trim t).isEmpty = false →
    finish (go { result := r, token := t } tail) = r ++ [trim t]

theorem finish_pending (r : List Str) (t : Str) (h : (trim t).isEmpty = false) (bs stop : Bool) :
    finish { result := r, token := t, bs := bs, stop := stop } = r ++ [trim t] := by
  have : t ≠ [] := by intro e; subst e; simp [trim, trimR, trimL] at h
  simp [finish, this]

theorem inertTail_nil : InertTail [] := fun r t h => finish_pending r t h false false

theorem inertTail_hash (c : Str) : InertTail ('#' :: c) := by
  intro r t h
  rw [go_cons, step_outside, if_neg (by decide), if_pos rfl, go_stopped c _ rfl]
  exact finish_pending r t h false true

theorem trimL_snoc_blank (t : Str) : trimL (t ++ [' ']) = if trimL t = [] then [] else trimL t ++ [' '] := by
  induction t with
  | nil => simp [trimL, isWs]
  | cons c cs ih =>
    by_cases hc : isWs c = true
    · simp [trimL, hc, ih]
    · simp [trimL, hc]

theorem trim_snoc_blank (t : Str) : trim (t ++ [' ']) = trim t := by
  simp only [trim, trimL_snoc_blank]
  split
  · rename_i h; rw [h]
  · simp [trimR, trimL, isWs]

theorem inertTail_blank (tail : Str) (h : InertTail tail) : InertTail (' ' :: tail) := by
  intro r t ht
  have e : step { result := r, token := t } ' ' tail.head? = { result := r, token := t ++ [' '] } := by
    simp [step_outside]
  rw [go_cons, e, h r _ (by rwa [trim_snoc_blank]), trim_snoc_blank]

/-- the comment texts: blanks (possibly none), `#`, anything -/
def commentTail (n : Nat) (c : Str) : Str := List.replicate n ' ' ++ '#' :: c

theorem inertTail_comment (n : Nat) (c : Str) : InertTail (commentTail n c) := by
  induction n with
  | zero => exact inertTail_hash c
  | succ n ih => exact inertTail_blank _ ih

/-- does the text after this segment start with `&&`? -/
def nextAnd : List (ListOp × Str) → Bool
  | (.and, _) :: _ => true
  | _ => false

/-- list-safe as in `segOk`, or list-safe up to a final `&` (the background marker glued to the end of the
segment) when the next operator is not `&&` -/
def segOkBg (na : Bool) (seg : Str) : Bool :=
  (safeSeg none false seg || (!na && seg.getLast? = some '&' && safeSeg none false seg.dropLast)) &&
  !(trim seg).isEmpty && !isListSep (trim seg)

def restOkBg : List (ListOp × Str) → Bool
  | [] => true
  | (_, seg) :: rest => segOkBg (nextAnd rest) seg && restOkBg rest

/-- input guard of `C03_background_amp` (a Boolean function of the program text only); weaker than `guard` -/
def guardBg (p : Prog) : Bool := segOkBg (nextAnd p.rest) p.first && restOkBg p.rest

theorem segOkBg_of_segOk (na : Bool) (seg : Str) (h : segOk seg = true) : segOkBg na seg = true := by
  simp only [segOk, Bool.and_eq_true] at h
  simp [segOkBg, h.1.1, h.1.2, h.2]

theorem restOkBg_of_all_segOk (rest : List (ListOp × Str)) (h : rest.all (fun x => segOk x.2) = true) : restOkBg rest = true := by
  induction rest with
  | nil => rfl
  | cons x xs ih =>
    simp only [List.all_cons, Bool.and_eq_true] at h
    simp [restOkBg, segOkBg_of_segOk _ x.2 h.1, ih h.2]

theorem guardBg_of_guard (p : Prog) (h : guard p = true) : guardBg p = true := by
  simp only [guard, Bool.and_eq_true] at h
  simp [guardBg, segOkBg_of_segOk _ _ h.1, restOkBg_of_all_segOk _ h.2]

theorem go_seg_bg (na : Bool) (seg : Str) (r : List Str) (t rest : Str)
    (h : (safeSeg none false seg || (!na && seg.getLast? = some '&' && safeSeg none false seg.dropLast)) = true)
    (hnext : na = false → rest.head? ≠ some '&') :
    go { result := r, token := t } (seg ++ rest) = go { result := r, token := t ++ seg } rest := by
  simp only [Bool.or_eq_true, Bool.and_eq_true, Bool.not_eq_true', decide_eq_true_eq] at h
  rcases h with h | ⟨⟨hna, hl⟩, hb⟩
  · exact go_safe_outside seg r t rest h
  · obtain ⟨ys, rfl⟩ := List.getLast?_eq_some_iff.mp hl
    rw [List.dropLast_concat] at hb
    have e : step { result := r, token := t ++ ys } '&' rest.head? = { result := r, token := t ++ (ys ++ ['&']) } := by
      simp [step_outside, hnext hna]
    rw [List.append_assoc, go_safe_outside ys r t _ hb, List.singleton_append, go_cons, e]

def renderRest (rest : List (ListOp × Str)) : Str :=
  (rest.map (fun (o, seg) => o.text ++ seg)).flatten

theorem head_renderRest (rest : List (ListOp × Str)) (tail : Str) (hna : nextAnd rest = false)
    (ht : tail.head? ≠ some '&') : (renderRest rest ++ tail).head? ≠ some '&' := by
  cases rest with
  | nil => simpa [renderRest] using ht
  | cons x xs =>
    obtain ⟨o, seg⟩ := x
    cases o <;> simp [renderRest, ListOp.text, nextAnd] at hna ⊢

def itemsRest : List (ListOp × Str) → List Str
  | [] => []
  | (o, seg) :: rest => o.text :: trim seg :: itemsRest rest

/-- the list `line_to_cmds` is expected to produce for a program -/
def items (p : Prog) : List Str := trim p.first :: itemsRest p.rest

/-- `hta` is what `go_seg_bg` needs when the last segment ends in `&` -/
theorem finish_go_rest (tail : Str) (ht : InertTail tail) (hta : tail.head? ≠ some '&') (rest : List (ListOp × Str)) :
    ∀ (r : List Str) (t : Str), (trim t).isEmpty = false → restOkBg rest = true →
      finish (go { result := r, token := t } (renderRest rest ++ tail)) = r ++ [trim t] ++ itemsRest rest := by
  induction rest with
  | nil =>
    intro r t h _
    simp [renderRest, itemsRest, ht r t h]
  | cons x rest ih =>
    intro r t h hall
    obtain ⟨o, seg⟩ := x
    simp only [restOkBg, segOkBg, Bool.and_eq_true, Bool.not_eq_true'] at hall
    obtain ⟨⟨⟨hs1, hs2⟩, _⟩, hrest⟩ := hall
    have e : renderRest ((o, seg) :: rest) ++ tail = o.text ++ (seg ++ (renderRest rest ++ tail)) := by
      simp [renderRest]
    have hp : pushTrim r t = r ++ [trim t] := by simp [pushTrim, h]
    rw [e, go_op, go_seg_bg (nextAnd rest) seg _ _ _ hs1 (fun hna => head_renderRest rest tail hna hta),
      List.nil_append, ih _ _ hs2 hrest, hp]
    simp [itemsRest]

theorem lineToCmds_render_tail (p : Prog) (hg : guardBg p = true) (tail : Str) (ht : InertTail tail)
    (hta : tail.head? ≠ some '&') :
    lineToCmds (render p ++ tail) = items p := by
  simp only [guardBg, segOkBg, Bool.and_eq_true, Bool.not_eq_true'] at hg
  obtain ⟨⟨⟨hf1, hf2⟩, _⟩, hr⟩ := hg
  have e : render p ++ tail = p.first ++ (renderRest p.rest ++ tail) := by simp [render, renderRest]
  rw [lineToCmds, e, go_seg_bg (nextAnd p.rest) p.first _ _ _ hf1 (fun hna => head_renderRest p.rest tail hna hta),
    List.nil_append, finish_go_rest tail ht hta p.rest _ _ hf2 hr]
  rfl

theorem lineToCmds_render_bg (p : Prog) (hg : guardBg p = true) : lineToCmds (render p) = items p := by
  have := lineToCmds_render_tail p hg [] inertTail_nil (by simp)
  rwa [List.append_nil] at this

theorem lineToCmds_render (p : Prog) (hg : guard p = true) : lineToCmds (render p) = items p :=
  lineToCmds_render_bg p (guardBg_of_guard p hg)

/-- does the pipeline after operator `o` run when the status so far is `status`? -/
def runsAfter (o : ListOp) (status : Int) : Bool :=
  match o with
  | .semi => true
  | .and => status = 0
  | .or => status ≠ 0

theorem specRest_cons {σ} (run : σ → Str → σ × Int) (r : Res σ) (o : ListOp) (seg : Str) (rest : List (ListOp × Str)) :
    specRest run r ((o, seg) :: rest) =
      if runsAfter o r.status then
        specRest run { sh := (run r.sh (trim seg)).1, status := (run r.sh (trim seg)).2,
                       trace := r.trace ++ [(trim seg, (run r.sh (trim seg)).2)] } rest
      else specRest run r rest := by
  cases o <;> simp [specRest, runsAfter]

theorem runItems_op {σ} (run : σ → Str → σ × Int) (st : LoopSt σ) (o : ListOp) (t : Str) (l : List Str)
    (ht : isListSep t = false) :
    runItems run st (o.text :: t :: l) =
      if runsAfter o st.status then
        runItems run { sh := (run st.sh t).1, status := (run st.sh t).2, sep := o.text,
                       trace := st.trace ++ [(t, (run st.sh t).2)] } l
      else runItems run { st with sep := o.text } l := by
  rw [runItems, if_pos (by cases o <;> rfl), runItems, if_neg (by simp [ht])]
  cases o <;> simp [ListOp.text, runsAfter]

theorem runItems_itemsRest {σ} (run : σ → Str → σ × Int) (rest : List (ListOp × Str)) :
    ∀ (st : LoopSt σ), (∀ x ∈ rest, isListSep (trim x.2) = false) →
      ofLoop (runItems run st (itemsRest rest)) = specRest run (ofLoop st) rest := by
  induction rest with
  | nil => intro st _; rfl
  | cons x rest ih =>
    intro st hall
    obtain ⟨o, seg⟩ := x
    have hrest : ∀ x ∈ rest, isListSep (trim x.2) = false := fun x hx => hall x (List.mem_cons_of_mem _ hx)
    rw [itemsRest, runItems_op run st o _ _ (hall (o, seg) List.mem_cons_self), specRest_cons,
      show (ofLoop st).status = st.status from rfl]
    split
    · exact ih _ hrest
    · exact ih _ hrest

theorem runItems_items {σ} (run : σ → Str → σ × Int) (sh : σ) (p : Prog) (hf : isListSep (trim p.first) = false)
    (hr : ∀ x ∈ p.rest, isListSep (trim x.2) = false) :
    ofLoop (runItems run { sh := sh } (items p)) = specList run sh p := by
  have e : runItems run { sh := sh } (items p) =
      runItems run { sh := (run sh (trim p.first)).1, status := (run sh (trim p.first)).2,
                     trace := [(trim p.first, (run sh (trim p.first)).2)] } (itemsRest p.rest) := by
    simp [items, runItems, hf]
  rw [e, runItems_itemsRest run _ _ hr]
  rfl

theorem restOkBg_not_sep (rest : List (ListOp × Str)) (h : restOkBg rest = true) :
    ∀ x ∈ rest, isListSep (trim x.2) = false := by
  induction rest with
  | nil => nofun
  | cons y rest ih =>
    simp only [restOkBg, segOkBg, Bool.and_eq_true, Bool.not_eq_true'] at h
    intro x hx
    rcases List.mem_cons.mp hx with rfl | hx
    · exact h.1.2
    · exact ih h.2 x hx

end Cicada.C03
