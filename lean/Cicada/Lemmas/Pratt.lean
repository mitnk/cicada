import Cicada.Model.Calc
/-! Pratt round trip (pest's `expr / nud / led` loop with cicada's table): parsing the flat form of any
tree that standard precedence and associativity print without parentheses returns that tree. -/
namespace Cicada.Calc
variable {α : Type}

/-- flat form: first atom and the (operator, atom) tail -/
def hd : E α → α
  | .atom a => a
  | .bin _ l _ => hd l
def tl : E α → List (Op × α)
  | .atom _ => []
  | .bin o l r => tl l ++ (o, hd r) :: tl r

/-- an atom counts as 1000, above every precedence of the table (`prec_lt`) -/
def rootPrec : E α → Nat
  | .atom _ => 1000
  | .bin o _ _ => prec o
def rootRbp : E α → Nat
  | .atom _ => 1000
  | .bin o _ _ => rbpOf o

/-- a tree that standard precedence / associativity prints without parentheses -/
def WF : E α → Prop
  | .atom _ => True
  | .bin o l r => WF l ∧ WF r ∧
      (prec o < rootPrec l ∨ (prec o = rootPrec l ∧ rightAssoc o = false)) ∧
      (prec o < rootPrec r ∨ (prec o = rootPrec r ∧ rightAssoc o = true))

/-- the loop at `rbp` stops at the head of the list -/
def stops (rbp : Nat) : List (Op × α) → Prop
  | [] => True
  | (o, _) :: _ => prec o ≤ rbp

def size : E α → Nat
  | .atom _ => 1
  | .bin _ l r => size l + size r + 1

theorem loop_succ (f : Nat) (lhs : E α) (rbp : Nat) (rest : List (Op × α)) (res) :
    loop f lhs rbp rest = some res → loop (f + 1) lhs rbp rest = some res := by
  induction f generalizing lhs rbp rest res with
  | zero => intro h; cases h
  | succ n ih =>
    match rest with
    | [] => exact id
    | (o, a) :: rest =>
      simp only [loop]
      split
      · cases h1 : loop n (E.atom a) (rbpOf o) rest with
        | none => intro h; cases h
        | some r1 => rw [ih _ _ _ _ h1]; exact ih _ _ _ _
      · exact id

theorem loop_mono {f g : Nat} (h : f ≤ g) {lhs : E α} {rbp rest res} :
    loop f lhs rbp rest = some res → loop g lhs rbp rest = some res := by
  induction h with
  | refl => exact id
  | step _ ih => exact fun h => loop_succ _ _ _ _ _ (ih h)

theorem loop_det {f g : Nat} {lhs : E α} {rbp rest r r'} (h1 : loop f lhs rbp rest = some r)
    (h2 : loop g lhs rbp rest = some r') : r = r' := by
  have a := loop_mono (Nat.le_max_left f g) h1
  rw [loop_mono (Nat.le_max_right f g) h2] at a
  exact (Option.some.inj a).symm

theorem loop_stops (f : Nat) (lhs : E α) {rbp : Nat} : ∀ {k : List (Op × α)}, stops rbp k →
    loop (f + 1) lhs rbp k = some (lhs, k)
  | [], _ => rfl
  | (_, _) :: _, h => by simp only [loop]; exact if_neg (Nat.not_lt.mpr h)

theorem stops_mono {a b : Nat} (h : a ≤ b) : ∀ {k : List (Op × α)}, stops a k → stops b k
  | [], _ => trivial
  | (_, _) :: _, hs => Nat.le_trans hs h

/-- the facts about the Pratt table of `calculator/mod.rs` that the proof uses; checked by `decide` over
`Generated.prattLevels`, so editing the table in the source breaks this obligation -/
theorem table_facts : prec .add = 10 ∧ prec .sub = 10 ∧ prec .mul = 20 ∧ prec .div = 20 ∧ prec .pow = 30 ∧
    rightAssoc .pow = true ∧ rightAssoc .add = false ∧ rightAssoc .sub = false ∧ rightAssoc .mul = false ∧ rightAssoc .div = false := by
  decide +kernel

theorem level (o : Op) : prec o = 10 ∧ rightAssoc o = false ∨ prec o = 20 ∧ rightAssoc o = false ∨
    prec o = 30 ∧ rightAssoc o = true := by
  obtain ⟨h1, h2, h3, h4, h5, h6, h7, h8, h9, h10⟩ := table_facts
  cases o <;> simp only [h1, h2, h3, h4, h5, h6, h7, h8, h9, h10] <;> decide

theorem prec_pos (o : Op) : 0 < prec o := by
  rcases level o with h | h | h <;> omega

theorem prec_lt (o : Op) : prec o < 1000 := by
  rcases level o with h | h | h <;> omega

theorem rightAssoc_iff (o : Op) : rightAssoc o = true ↔ prec o = 30 := by
  rcases level o with h | h | h <;> simp [h.1, h.2]

theorem rightAssoc_of_prec_eq {o o' : Op} (h : prec o = prec o') : rightAssoc o = rightAssoc o' :=
  Bool.eq_iff_iff.mpr (by rw [rightAssoc_iff, rightAssoc_iff, h])

theorem rbpOf_bounds (o : Op) : rbpOf o ≤ prec o ∧ prec o ≤ rbpOf o + 1 := by
  unfold rbpOf; split <;> omega

theorem rootRbp_bounds : ∀ e : E α, rootRbp e ≤ rootPrec e ∧ rootPrec e ≤ rootRbp e + 1
  | .atom _ => ⟨Nat.le_refl _, Nat.le_succ _⟩
  | .bin o _ _ => rbpOf_bounds o

/-- the side conditions of `WF` are the loop's own: inside `l` it stops at `o`, and `r` is read at `rbpOf o` -/
theorem WF_bin {o : Op} {l r : E α} (h : WF (.bin o l r)) :
    WF l ∧ WF r ∧ prec o ≤ rootRbp l ∧ rbpOf o < rootPrec r := by
  obtain ⟨wl, wr, cl, cr⟩ := h
  refine ⟨wl, wr, ?_, ?_⟩
  · rcases cl with h | ⟨h, a⟩
    · exact Nat.le_of_lt_succ (Nat.lt_of_lt_of_le h (rootRbp_bounds l).2)
    · cases l with
      | atom _ => exact Nat.le_of_eq h
      | bin o1 _ _ =>
        have a1 : rightAssoc o1 = false := rightAssoc_of_prec_eq h ▸ a
        simp only [rootRbp, rbpOf, a1, Bool.false_eq_true, if_false]
        exact Nat.le_of_eq h
  · rcases cr with h | ⟨h, a⟩
    · exact Nat.lt_of_le_of_lt (rbpOf_bounds o).1 h
    · simp only [rbpOf, a, if_true, ← h]
      exact Nat.sub_lt (prec_pos o) Nat.one_pos

/-- key lemma: where the loop gets from lhs `e` with `k` left, it also gets from `hd e` with `tl e ++ k` -/
theorem absorb (e : E α) : ∀ (rbp : Nat) (k : List (Op × α)) (res), WF e → rbp < rootPrec e →
    stops (rootRbp e) k →
    ∀ f, loop f e rbp k = some res →
    ∃ g, loop g (.atom (hd e)) rbp (tl e ++ k) = some res := by
  induction e with
  | atom a => intro rbp k res _ _ _ f h; exact ⟨f, h⟩
  | bin o l r ihl ihr =>
    intro rbp k res hwf hlt hst f h
    obtain ⟨wl, wr, hl, hr⟩ := WF_bin hwf
    have hlt : rbp < prec o := hlt
    obtain ⟨g1, hg1⟩ := ihr (rbpOf o) k (r, k) wr hr
      (stops_mono (Nat.le_of_lt_succ (Nat.lt_of_lt_of_le hr (rootRbp_bounds r).2)) hst) 1 (loop_stops 0 r hst)
    have step : loop (max g1 f + 1) l rbp ((o, hd r) :: (tl r ++ k)) = some res := by
      simp only [loop, hlt, if_true]
      rw [loop_mono (Nat.le_max_left g1 f) hg1]
      exact loop_mono (Nat.le_max_right g1 f) h
    -- `hl : prec o ≤ rootRbp l` is also `stops (rootRbp l) ((o, hd r) :: _)`, by unfolding
    obtain ⟨g, hg⟩ := ihl rbp ((o, hd r) :: (tl r ++ k)) res wl (Nat.lt_of_lt_of_le hlt (Nat.le_trans hl (rootRbp_bounds l).1)) hl _ step
    exact ⟨g, by simpa only [hd, tl, List.append_assoc, List.cons_append] using hg⟩

theorem pratt_roundtrip (e : E α) (h : WF e) : ∃ g, loop g (.atom (hd e)) 0 (tl e) = some (e, []) := by
  have h0 : 0 < rootPrec e := by
    cases e with
    | atom _ => exact Nat.zero_lt_succ _
    | bin o _ _ => exact prec_pos o
  obtain ⟨g, hg⟩ := absorb e 0 [] (e, []) h h0 trivial 1 rfl
  exact ⟨g, by simpa only [List.append_nil] using hg⟩

theorem loop_total {α : Type} : ∀ (f : Nat) (lhs : E α) (rbp : Nat) (rest : List (Op × α)), rest.length < f →
    ∃ r, loop f lhs rbp rest = some r ∧ r.2.length ≤ rest.length := by
  intro f
  induction f with
  | zero => intro _ _ _ h; exact absurd h (Nat.not_lt_zero _)
  | succ f ih =>
    intro lhs rbp rest h
    match rest with
    | [] => exact ⟨(lhs, []), rfl, Nat.le_refl _⟩
    | (o, a) :: rest =>
      have h : rest.length < f := Nat.lt_of_succ_lt_succ h
      by_cases hp : rbp < prec o
      · obtain ⟨r1, e1, l1⟩ := ih (.atom a) (rbpOf o) rest h
        obtain ⟨r2, e2, l2⟩ := ih (.bin o lhs r1.1) rbp r1.2 (Nat.lt_of_le_of_lt l1 h)
        exact ⟨r2, by simp only [loop, hp, if_true, e1, e2], Nat.le_trans l2 (Nat.le_trans l1 (Nat.le_succ _))⟩
      · exact ⟨(lhs, (o, a) :: rest), by simp only [loop, hp, if_false], Nat.le_refl _⟩

def mapE {α β : Type} (g : α → β) : E α → E β
  | .atom a => .atom (g a)
  | .bin o l r => .bin o (mapE g l) (mapE g r)

def mapOps {α β : Type} (g : α → β) (xs : List (Op × α)) : List (Op × β) := xs.map (fun p => (p.1, g p.2))

theorem loop_map {α β : Type} (g : α → β) : ∀ (f : Nat) (lhs : E α) (rbp : Nat) (rest : List (Op × α)),
    loop f (mapE g lhs) rbp (mapOps g rest) = (loop f lhs rbp rest).map (fun r => (mapE g r.1, mapOps g r.2)) := by
  intro f
  induction f with
  | zero => intro _ _ _; rfl
  | succ f ih =>
    intro lhs rbp rest
    cases rest with
    | nil => rfl
    | cons p rest =>
      obtain ⟨o, a⟩ := p
      simp only [mapOps, List.map_cons, loop]
      split
      · have h1 := ih (.atom a) (rbpOf o) rest
        simp only [mapE, mapOps] at h1
        rw [h1]
        cases loop f (E.atom a) (rbpOf o) rest with
        | none => rfl
        | some r1 =>
          have h2 := ih (.bin o lhs r1.1) rbp r1.2
          simp only [mapE, mapOps] at h2
          simp only [Option.map_some, h2]
      · rfl

theorem pratt_map {α β : Type} (g : α → β) (a : α) (xs : List (Op × α)) :
    pratt (g a) (mapOps g xs) = (pratt a xs).map (mapE g) := by
  have := loop_map g (2 * xs.length + 2) (.atom a) 0 xs
  simp only [mapE] at this
  simp only [pratt, mapOps, List.length_map] at this ⊢
  rw [this]
  cases loop (2 * xs.length + 2) (E.atom a) 0 xs <;> rfl

theorem pratt_total {α : Type} (a : α) (xs : List (Op × α)) : ∃ e, pratt a xs = some e := by
  obtain ⟨r, hr, _⟩ := loop_total (2 * xs.length + 2) (.atom a) 0 xs (by omega)
  exact ⟨r.1, by simp [pratt, hr]⟩

end Cicada.Calc
