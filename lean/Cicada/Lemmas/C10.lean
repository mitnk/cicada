import Cicada.Spec.C10
/-! Lemmas for C10: fuel irrelevance of the single-pass scanner `expandEnvs`, its equations, and what `keySpan` / `dollarRef`
(the model of the key regex after a `$`) make of a name, a braced name, `?` and `$`. -/
namespace Cicada.C10
open Cicada

theorem keySpan_length (s : Str) : (keySpan s).2.length ≤ s.length := by
  have hsplit : s.length = (s.takeWhile isKeyChar).length + (s.dropWhile isKeyChar).length := by
    rw [← List.length_append, List.takeWhile_append_dropWhile]
  unfold keySpan
  by_cases h : s.takeWhile isKeyChar ≠ []
  · rw [if_pos h]; simp only; omega
  · rw [if_neg h]
    split <;> simp

theorem dollarRef_length (cs : Str) (k rest : Str) (h : dollarRef cs = some (k, rest)) : rest.length ≤ cs.length := by
  unfold dollarRef at h
  split at h
  · rename_i r
    have hk := keySpan_length r
    split at h
    · rename_i k' ks rest' heq
      simp at h
      rw [heq] at hk
      simp at hk
      rw [← h.2]; simp; omega
    · simp at h
  · have hk := keySpan_length cs
    split at h
    · simp at h
    · rename_i k' rest' _ heq
      simp at h
      rw [heq] at hk
      rw [← h.2]; exact hk

theorem expandEnvsAux_fuel (e : Env) : ∀ (f : Nat) (s : Str) (g : Nat), s.length < f → s.length < g →
    expandEnvsAux e f s = expandEnvsAux e g s := by
  intro f
  induction f with
  | zero => intro s g hf; exact absurd hf (Nat.not_lt_zero _)
  | succ f ih =>
    intro s g hf hg
    obtain ⟨g, rfl⟩ : ∃ g', g = g' + 1 := ⟨g - 1, by omega⟩
    cases s with
    | nil => rfl
    | cons c cs =>
      simp only [List.length_cons] at hf hg
      have hcs := ih cs g (by omega) (by omega)
      simp only [expandEnvsAux]
      split
      · rw [hcs]
      · split
        · rw [hcs]
        · rename_i key rest heq
          have := dollarRef_length cs key rest heq
          rw [ih rest g (by omega) (by omega)]

theorem fuel_irrelevant (e : Env) : ∀ (n : Nat) (s : Str) (f g : Nat), s.length ≤ n → s.length < f → s.length < g →
    expandEnvsAux e f s = expandEnvsAux e g s :=
  fun _ s f g _ hf hg => expandEnvsAux_fuel e f s g hf hg

theorem expandEnvs_eq (e : Env) (s : Str) (f : Nat) (hf : s.length < f) : expandEnvsAux e f s = expandEnvs e s :=
  expandEnvsAux_fuel e f s (s.length + 1) hf (Nat.lt_succ_self _)

theorem expandEnvs_nil (e : Env) : expandEnvs e [] = [] := by simp [expandEnvs, expandEnvsAux]

theorem expandEnvs_lit (e : Env) (c : Char) (cs : Str) (h : c ≠ '$') : expandEnvs e (c :: cs) = c :: expandEnvs e cs := by
  simp only [expandEnvs, List.length_cons, expandEnvsAux, h, ne_eq, not_false_eq_true, ↓reduceIte]

theorem expandEnvs_lits (e : Env) (s rest : Str) (h : ∀ c ∈ s, c ≠ '$') :
    expandEnvs e (s ++ rest) = s ++ expandEnvs e rest := by
  induction s with
  | nil => rfl
  | cons c cs ih =>
    simp only [List.cons_append]
    rw [expandEnvs_lit e c _ (h c (by simp)), ih (fun x hx => h x (by simp [hx]))]

theorem expandEnvs_ref (e : Env) (cs key rest : Str) (h : dollarRef cs = some (key, rest)) :
    expandEnvs e ('$' :: cs) = e.keyValue key ++ expandEnvs e rest := by
  have hl := dollarRef_length cs key rest h
  simp only [expandEnvs, List.length_cons, expandEnvsAux, ne_eq, not_true_eq_false, ↓reduceIte, h]
  rw [expandEnvs_eq e rest _ (by omega)]; rfl

theorem keySpan_name (n rest : Str) (hn : n ≠ []) (hk : n.all isKeyChar = true)
    (hr : ∀ c, rest.head? = some c → isKeyChar c = false) : keySpan (n ++ rest) = (n, rest) := by
  have h1 : ∀ n : Str, n.all isKeyChar = true → (n ++ rest).takeWhile isKeyChar = n ∧ (n ++ rest).dropWhile isKeyChar = rest := by
    intro n
    induction n with
    | nil =>
      intro _
      cases rest with
      | nil => simp
      | cons d ds => simp [hr d rfl]
    | cons c cs ih =>
      intro hk
      simp only [List.all_cons, Bool.and_eq_true] at hk
      have := ih hk.2
      simp [hk.1, this.1, this.2]
  obtain ⟨a, b⟩ := h1 n hk
  simp [keySpan, a, b, hn]

theorem ident_facts (n : Str) (h : isIdent n = true) :
    ∃ c cs, n = c :: cs ∧ isNameStart c = true ∧ (∀ x ∈ n, isNameChar x = true) := by
  cases n with
  | nil => simp [isIdent] at h
  | cons c cs =>
    simp only [isIdent, Bool.and_eq_true, List.all_eq_true] at h
    refine ⟨c, cs, rfl, h.1, ?_⟩
    intro x hx
    rcases List.mem_cons.mp hx with rfl | hx
    · have := h.1
      simp only [isNameStart, isNameChar, Bool.or_eq_true] at this ⊢
      exact this.elim (fun a => Or.inl (Or.inl a)) Or.inr
    · exact h.2 x hx

theorem ident_keySpan (n rest : Str) (hn : isIdent n = true) (hr : ∀ c, rest.head? = some c → isKeyChar c = false) :
    keySpan (n ++ rest) = (n, rest) := by
  obtain ⟨c, cs, rfl, _, hall⟩ := ident_facts n hn
  exact keySpan_name (c :: cs) rest (List.cons_ne_nil _ _) (List.all_eq_true.mpr hall) hr

theorem dollarRef_var (n rest : Str) (hn : isIdent n = true) (hr : ∀ c, rest.head? = some c → isKeyChar c = false) :
    dollarRef (n ++ rest) = some (n, rest) := by
  have hks := ident_keySpan n rest hn hr
  obtain ⟨c, cs, rfl, hc, _⟩ := ident_facts n hn
  have hb : c ≠ '{' := by intro e'; subst e'; revert hc; decide
  unfold dollarRef
  split
  · rename_i r heq; simp at heq; exact absurd heq.1 hb
  · rw [hks]

theorem dollarRef_braced (n rest : Str) (hn : isIdent n = true) :
    dollarRef ('{' :: (n ++ '}' :: rest)) = some (n, rest) := by
  have hks := ident_keySpan n ('}' :: rest) hn (by intro d hd; simp at hd; subst hd; decide)
  obtain ⟨c, cs, rfl, _, _⟩ := ident_facts n hn
  simp only [dollarRef, hks]

theorem dollarRef_special (c : Char) (rest : Str) (hc : c = '?' ∨ c = '$') :
    dollarRef (c :: rest) = some ([c], rest) := by
  rcases hc with rfl | rfl <;> rfl

end Cicada.C10
