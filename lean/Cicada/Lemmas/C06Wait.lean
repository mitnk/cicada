import Cicada.Lemmas.C06Refine
import Cicada.Thm.C02
/-!
# C06 — the foreground wait, exactly

Lemmas for `C06_wait_returns_exactly` (`Thm/C06d.lean`): for a job whose members only exit / get killed, `wait_fg_job` consumes
exactly the prefix of the pending queue up to the last terminal notification of its own members, parks the notifications of other
children met on the way as the prompt-time `park` would (`parkF`), removes the job from the table and reports the status carried
by the last pid's notification.

The loop calls `markMemberStopped … pid 0` for a stop of a non-member, so the full description of the table needs "no job has group
id 0"; `wait_returns_exactly_core` describes everything but `stoppedSet` / `status` / `isBg` without that guard, and
`wait_gid0_witness` shows that the difference is real.  Unique ids and `pids.Nodup` are not assumed.
-/

namespace Cicada.C06
open Cicada.Jobs

theorem terminal_eq_exitLike (e : Ev) : e.terminal = exitLike e := by cases e <;> rfl

theorem markMemberStopped_zero (s : Sh) (p : Pid) (hz : ∀ j ∈ s.jobs, j.gid ≠ 0) : markMemberStopped s p 0 = s := by
  unfold markMemberStopped findGid
  rw [List.find?_eq_none.mpr fun x hx => by simpa using hz x hx]

/-- what the loop does with a notification of another child, whatever the table: `fgStep gid pids s e` for a non-member.  The
two equations below (`waitFgGo_other`, `waitFgGo_own`) keep the count and the status exact, which `waitFgGo_cons` forgets -/
def otherF (s : Sh) : Ev → Sh
  | .exited p c => { s with reap := putMap s.reap p c }
  | .killed p g => { s with kill := putMap s.kill p g }
  | .stopped p _ => markMemberStopped { s with stop := addOnce s.stop p } p 0
  | .continued p => { s with cont := addOnce s.cont p }

theorem waitFgGo_other (gid : Pid) (pids : List Pid) (e : Ev) (rest : List Ev) (s : Sh) (w : Nat) (st : Int)
    (hfg : C02.isFg pids e = false) (hw : w < pids.length) :
    waitFgGo gid pids (e :: rest) s w st = waitFgGo gid pids rest (otherF s e) w st := by
  have hge : ¬ w ≥ pids.length := by omega
  cases e with
  | continued p =>
    have hfg' : pids.contains p = false := hfg
    simp only [waitFgGo, Ev.pid, hfg', Bool.false_eq_true, ↓reduceIte, otherF]
  | exited p c =>
    have hfg' : pids.contains p = false := hfg
    simp only [waitFgGo, Ev.pid, hfg', Bool.false_eq_true, ↓reduceIte, false_and, hge, otherF]
  | killed p c =>
    have hfg' : pids.contains p = false := hfg
    simp only [waitFgGo, Ev.pid, hfg', Bool.false_eq_true, ↓reduceIte, false_and, hge, otherF]
  | stopped p c =>
    have hfg' : pids.contains p = false := hfg
    simp only [waitFgGo, Ev.pid, hfg', Bool.false_eq_true, ↓reduceIte, false_and, hge, otherF]

theorem waitFgGo_own (gid : Pid) (pids : List Pid) (e : Ev) (rest : List Ev) (s : Sh) (w : Nat) (st : Int)
    (hfg : C02.isFg pids e = true) (hx : exitLike e = true) :
    waitFgGo gid pids (e :: rest) s w st =
      if w + 1 ≥ pids.length then
        ({ removePid s gid e.pid with pending := rest }, if some e.pid = pids.getLast? then e.status else st)
      else waitFgGo gid pids rest (removePid s gid e.pid) (w + 1) (if some e.pid = pids.getLast? then e.status else st) := by
  cases e with
  | continued p => cases hx
  | stopped p c => cases hx
  | exited p c =>
    have hfg' : pids.contains p = true := hfg
    simp only [waitFgGo, Ev.pid, hfg', ↓reduceIte, true_and]
    split <;> rfl
  | killed p c =>
    have hfg' : pids.contains p = true := hfg
    simp only [waitFgGo, Ev.pid, hfg', ↓reduceIte, true_and]
    split <;> rfl

theorem findGid_updJob (s : Sh) (gid : Pid) (j : Job) (f : Job → Job) (hf : ∀ x, (f x).gid = x.gid)
    (h : findGid s gid = some j) : findGid (updJob s j.id f) gid = some (f j) := by
  unfold findGid updJob at *
  simp only
  rw [List.find?_map]
  have : ((fun x => decide (x.gid = gid)) ∘ fun x => if x.id = j.id then f x else x) = fun x : Job => decide (x.gid = gid) := by
    funext x
    simp only [Function.comp]
    split <;> simp [hf]
  rw [this, h]
  simp

theorem filter_updJob (i : Nat) (f : Job → Job) (hf : ∀ x, (f x).id = x.id) : ∀ (l : List Job),
    (l.map fun x => if x.id = i then f x else x).filter (fun x => decide (x.id ≠ i)) = l.filter (fun x => decide (x.id ≠ i)) := by
  intro l
  induction l with
  | nil => rfl
  | cons x xs ih =>
    simp only [List.map_cons, List.filter_cons, ih]
    by_cases hx : x.id = i
    · simp [hx, hf]
    · simp [hx]

theorem removePid_more (s : Sh) (gid p : Pid) (j : Job) (hf : findGid s gid = some j) (hne : j.pids.erase p ≠ []) :
    removePid s gid p = updJob s j.id (fun x => { x with pids := j.pids.erase p }) := by
  unfold removePid
  rw [hf]
  simp only
  have : (j.pids.erase p).isEmpty = false := by simpa using hne
  simp only [this, Bool.false_eq_true, ↓reduceIte]

theorem removePid_lastOne (s : Sh) (gid p : Pid) (j : Job) (hf : findGid s gid = some j) (he : j.pids.erase p = []) :
    removePid s gid p = { s with jobs := s.jobs.filter (fun x => decide (x.id ≠ j.id)) } := by
  unfold removePid
  rw [hf]
  simp only [he, List.isEmpty_nil, ↓reduceIte]

/-! ### the loop, exactly

A stop of another child met by the loop calls `markMemberStopped … pid 0`; if some job has group id 0 its `stoppedSet`
(and possibly `status` / `isBg`) change.  Ids, group ids and pids do not. -/

def jobCore (j : Job) : Nat × Pid × List Pid := (j.id, j.gid, j.pids)

theorem updJob_core (s : Sh) (i : Nat) (f : Job → Job) (hf : ∀ x, jobCore (f x) = jobCore x) :
    (updJob s i f).jobs.map jobCore = s.jobs.map jobCore := map_updJob jobCore i f hf s.jobs

theorem markMemberStopped_core (s : Sh) (p g : Pid) : (markMemberStopped s p g).jobs.map jobCore = s.jobs.map jobCore := by
  unfold markMemberStopped
  cases findGid s g with
  | none => rfl
  | some j =>
    apply ite_ind (fun x : Sh => x.jobs.map jobCore = _)
    · refine (updJob_core _ _ _ ?_).trans (updJob_core _ _ _ ?_) <;> intro x <;> rfl
    · refine updJob_core _ _ _ ?_
      intro x; rfl

theorem findGid_core (s s' : Sh) (gid : Pid) (j : Job) (h : s'.jobs.map jobCore = s.jobs.map jobCore) (hf : findGid s gid = some j) :
    ∃ j', findGid s' gid = some j' ∧ jobCore j' = jobCore j := by
  have key : ∀ (l : List Job), (l.find? (fun x => decide (x.gid = gid))).map jobCore =
      (l.map jobCore).find? (fun c => decide (c.2.1 = gid)) := by
    intro l; rw [List.find?_map]; rfl
  have h1 := key s'.jobs
  rw [h, ← key s.jobs] at h1
  unfold findGid at hf ⊢
  rw [hf] at h1
  cases hf' : s'.jobs.find? (fun x => decide (x.gid = gid)) with
  | none => rw [hf'] at h1; cases h1
  | some j' =>
    rw [hf'] at h1
    exact ⟨j', rfl, by simpa using h1⟩

theorem filter_core (a b : List Job) (i : Nat) (h : a.map jobCore = b.map jobCore) :
    (a.filter (fun x => decide (x.id ≠ i))).map jobCore = (b.filter (fun x => decide (x.id ≠ i))).map jobCore := by
  have key : ∀ (l : List Job), (l.filter (fun x => decide (x.id ≠ i))).map jobCore =
      (l.map jobCore).filter (fun c => decide (c.1 ≠ i)) := by
    intro l; rw [List.filter_map]; rfl
  rw [key, key, h]

theorem parkFold_jobs (J : List Job) : ∀ (l : List Ev) (s : Sh),
    { l.foldl parkF s with jobs := J } = l.foldl parkF { s with jobs := J } := by
  intro l
  induction l with
  | nil => intro s; rfl
  | cons e rest ih =>
    intro s
    simp only [List.foldl_cons]
    rw [ih]
    cases e <;> rfl

theorem otherF_parkF (s : Sh) (e : Ev) :
    otherF s e = { parkF s e with jobs := (otherF s e).jobs } ∧ (otherF s e).jobs.map jobCore = s.jobs.map jobCore := by
  cases e with
  | exited p c => exact ⟨rfl, rfl⟩
  | killed p c => exact ⟨rfl, rfl⟩
  | continued p => exact ⟨rfl, rfl⟩
  | stopped p c =>
    exact ⟨markMemberStopped_only_jobs _ p 0, markMemberStopped_core _ p 0⟩

/-- the loop, from any point of the prefix (a stop of another child is looked up under group id 0: hence the last clause) -/
theorem waitFgGo_exact_core (gid : Pid) (pids : List Pid) (post : List Ev) (elast : Ev) (hlast : C02.isFg pids elast = true) :
    ∀ (pre : List Ev) (s : Sh) (w : Nat) (st : Int) (j : Job),
    findGid s gid = some j → j.pids.length + w = pids.length →
    (∀ e ∈ pre ++ [elast], C02.isFg pids e = true → exitLike e = true ∧ e.pid ∈ j.pids) →
    (((pre ++ [elast]).filter (C02.isFg pids)).map Ev.pid).Nodup →
    ((pre ++ [elast]).filter (C02.isFg pids)).length + w = pids.length →
    (waitFgGo gid pids (pre ++ elast :: post) s w st).1.pending = post ∧
    (waitFgGo gid pids (pre ++ elast :: post) s w st).1.reap = ((pre.filter (fun e => !C02.isFg pids e)).foldl parkF s).reap ∧
    (waitFgGo gid pids (pre ++ elast :: post) s w st).1.kill = ((pre.filter (fun e => !C02.isFg pids e)).foldl parkF s).kill ∧
    (waitFgGo gid pids (pre ++ elast :: post) s w st).1.stop = ((pre.filter (fun e => !C02.isFg pids e)).foldl parkF s).stop ∧
    (waitFgGo gid pids (pre ++ elast :: post) s w st).1.cont = ((pre.filter (fun e => !C02.isFg pids e)).foldl parkF s).cont ∧
    (waitFgGo gid pids (pre ++ elast :: post) s w st).1.jobs.map jobCore =
      (s.jobs.filter (fun x => decide (x.id ≠ j.id))).map jobCore ∧
    ((∀ x ∈ s.jobs, x.gid ≠ 0) →
      (waitFgGo gid pids (pre ++ elast :: post) s w st).1.jobs = s.jobs.filter (fun x => decide (x.id ≠ j.id))) := by
  intro pre
  induction pre with
  | nil =>
    intro s w st j hfind hlen hev hown hcount
    simp only [List.nil_append, List.filter_cons, hlast, ↓reduceIte, List.filter_nil, List.length_cons, List.length_nil] at hcount
    obtain ⟨hx, hm⟩ := hev elast (by simp) hlast
    rw [List.nil_append, waitFgGo_own gid pids elast post s w st hlast hx]
    have hge : w + 1 ≥ pids.length := by omega
    rw [if_pos hge]
    have he : j.pids.erase elast.pid = [] := by
      apply List.eq_nil_of_length_eq_zero
      rw [List.length_erase_of_mem hm]; omega
    rw [removePid_lastOne s gid _ j hfind he]
    exact ⟨rfl, rfl, rfl, rfl, rfl, rfl, fun _ => rfl⟩
  | cons e rest ih =>
    intro s w st j hfind hlen hev hown hcount
    have hev' : ∀ x ∈ rest ++ [elast], C02.isFg pids x = true → exitLike x = true ∧ x.pid ∈ j.pids :=
      fun x hx => hev x (by simp only [List.cons_append, List.mem_cons]; exact Or.inr hx)
    have hpos : 1 ≤ ((rest ++ [elast]).filter (C02.isFg pids)).length := by
      simp [List.filter_append, hlast]
    by_cases hfg : C02.isFg pids e = true
    · obtain ⟨hx, hm⟩ := hev e (by simp) hfg
      simp only [List.cons_append, List.filter_cons, hfg, ↓reduceIte, List.map_cons, List.nodup_cons, List.length_cons] at hown hcount
      rw [List.cons_append, waitFgGo_own gid pids e _ s w st hfg hx]
      have hge : ¬ w + 1 ≥ pids.length := by omega
      simp only [hge, ↓reduceIte]
      have hlen' : (j.pids.erase e.pid).length = j.pids.length - 1 := List.length_erase_of_mem hm
      have hne : j.pids.erase e.pid ≠ [] := by
        intro h0; rw [h0] at hlen'; simp at hlen'; omega
      rw [removePid_more s gid _ j hfind hne]
      have hI := ih (updJob s j.id (fun x => { x with pids := j.pids.erase e.pid })) (w + 1)
        (if some e.pid = pids.getLast? then e.status else st) { j with pids := j.pids.erase e.pid }
        (findGid_updJob s gid j _ (fun _ => rfl) hfind) (by simp only; omega) ?_ hown.2 (by omega)
      · have hF : ∀ l : List Ev, l.foldl parkF (updJob s j.id (fun x => { x with pids := j.pids.erase e.pid })) =
            { l.foldl parkF s with jobs := (updJob s j.id (fun x => { x with pids := j.pids.erase e.pid })).jobs } :=
          fun l => (parkFold_jobs _ l s).symm
        rw [hF] at hI
        simp only [List.filter_cons, hfg, Bool.not_true, Bool.false_eq_true, ↓reduceIte]
        obtain ⟨h1, h2, h3, h4, h5, h6, h7⟩ := hI
        have hfl := filter_updJob j.id (fun x => { x with pids := j.pids.erase e.pid }) (fun _ => rfl) s.jobs
        refine ⟨h1, h2, h3, h4, h5, ?_, ?_⟩
        · rw [h6]
          simp only [updJob]
          rw [hfl]
        · intro hz
          rw [h7 ?_]
          · exact hfl
          · intro x hx
            simp only [updJob, List.mem_map] at hx
            obtain ⟨y, hy, rfl⟩ := hx
            have := hz y hy
            split <;> exact this
      · intro x hx hxf
        obtain ⟨h1, h2⟩ := hev' x hx hxf
        refine ⟨h1, ?_⟩
        simp only
        rw [List.mem_erase_of_ne]
        · exact h2
        · intro heq
          exact hown.1 (List.mem_map.mpr ⟨x, List.mem_filter.mpr ⟨hx, hxf⟩, heq⟩)
    · have hfgf : C02.isFg pids e = false := by simpa using hfg
      simp only [List.cons_append, List.filter_cons, hfgf, Bool.false_eq_true, ↓reduceIte] at hown hcount
      rw [List.cons_append, waitFgGo_other gid pids e _ s w st hfgf (by omega)]
      obtain ⟨ho1, ho2⟩ := otherF_parkF s e
      obtain ⟨j', hf', hc'⟩ := findGid_core s (otherF s e) gid j ho2 hfind
      have hid : j'.id = j.id := congrArg (·.1) hc'
      have hpd : j'.pids = j.pids := congrArg (·.2.2) hc'
      have hI := ih (otherF s e) w st j' hf' (by rw [hpd]; exact hlen)
        (by rw [hpd]; exact hev') hown hcount
      have hF : ∀ l : List Ev, l.foldl parkF (otherF s e) = { l.foldl parkF (parkF s e) with jobs := (otherF s e).jobs } :=
        fun l => (congrArg (fun x => List.foldl parkF x l) ho1).trans (parkFold_jobs _ l _).symm
      rw [hF] at hI
      simp only [List.filter_cons, hfgf, Bool.not_false, ↓reduceIte, List.foldl_cons]
      obtain ⟨h1, h2, h3, h4, h5, h6, h7⟩ := hI
      refine ⟨h1, h2, h3, h4, h5, ?_, ?_⟩
      · rw [h6, hid]
        exact filter_core _ _ _ ho2
      · intro hz
        have hj : (otherF s e).jobs = s.jobs := by
          cases e with
          | stopped p c =>
            have := congrArg Sh.jobs (markMemberStopped_zero { s with stop := addOnce s.stop p } p hz)
            exact this
          | exited p c => rfl
          | killed p c => rfl
          | continued p => rfl
        rw [h7 (by rw [hj]; exact hz), hj, hid]

theorem waitFgGo_cut (gid : Pid) (pids : List Pid) (post : List Ev) (elast : Ev) (hlast : C02.isFg pids elast = true)
    (hxl : exitLike elast = true) : ∀ (pre : List Ev) (s : Sh) (w : Nat) (st : Int),
    (∀ e ∈ pre, C02.isFg pids e = true → exitLike e = true) →
    (pre.filter (C02.isFg pids)).length + 1 + w = pids.length →
    (waitFgGo gid pids (pre ++ elast :: post) s w st).2 = (waitFgGo gid pids (pre ++ [elast]) s w st).2 := by
  intro pre
  induction pre with
  | nil =>
    intro s w st _ hcount
    simp only [List.filter_nil, List.length_nil] at hcount
    have hge : w + 1 ≥ pids.length := by omega
    rw [List.nil_append, List.nil_append, waitFgGo_own gid pids elast post s w st hlast hxl,
      waitFgGo_own gid pids elast [] s w st hlast hxl]
    simp only [hge, ↓reduceIte]
  | cons e rest ih =>
    intro s w st hev hcount
    have hev' : ∀ x ∈ rest, C02.isFg pids x = true → exitLike x = true := fun x hx => hev x (List.mem_cons_of_mem _ hx)
    by_cases hfg : C02.isFg pids e = true
    · have hx := hev e List.mem_cons_self hfg
      simp only [List.filter_cons, hfg, ↓reduceIte, List.length_cons] at hcount
      have hge : ¬ w + 1 ≥ pids.length := by omega
      rw [List.cons_append, List.cons_append, waitFgGo_own gid pids e _ s w st hfg hx, waitFgGo_own gid pids e _ s w st hfg hx]
      simp only [hge, ↓reduceIte]
      exact ih _ _ _ hev' (by omega)
    · have hfgf : C02.isFg pids e = false := by simpa using hfg
      simp only [List.filter_cons, hfgf, Bool.false_eq_true, ↓reduceIte] at hcount
      rw [List.cons_append, List.cons_append, waitFgGo_other gid pids e _ s w st hfgf (by omega),
        waitFgGo_other gid pids e _ s w st hfgf (by omega)]
      exact ih _ _ _ hev' hcount

/-- pigeonhole: the own notifications of the prefix carry each pid of the job exactly once -/
theorem own_perm (pids : List Pid) (l : List Ev) (hown : ((l.filter (C02.isFg pids)).map Ev.pid).Nodup)
    (hcount : (l.filter (C02.isFg pids)).length = pids.length) : ((l.filter (C02.isFg pids)).map Ev.pid).Perm pids := by
  have hsub : (l.filter (C02.isFg pids)).map Ev.pid ⊆ pids := by
    intro p hp
    obtain ⟨e, he, rfl⟩ := List.mem_map.mp hp
    have := (List.mem_filter.mp he).2
    simpa [C02.isFg] using this
  have hsp := List.subperm_of_subset hown hsub
  exact hsp.perm_of_length_le (by simp only [List.length_map]; omega)

/-- `C06_wait_returns_exactly` without the guard "no job has group id 0"; with it (last clause) the table itself -/
theorem wait_returns_exactly_core (s : Sh) (gid : Pid) (pids : List Pid) (j0 : Job) (pre post : List Ev) (elast : Ev)
    (hfind : findGid s gid = some j0) (hpids : j0.pids = pids) (hne : pids ≠ [])
    (hq : s.pending = pre ++ elast :: post)
    (hlast : C02.isFg pids elast = true)
    (hterm : ∀ e ∈ pre ++ [elast], C02.isFg pids e = true → exitLike e = true)
    (hown : (((pre ++ [elast]).filter (C02.isFg pids)).map Ev.pid).Nodup)
    (hcount : ((pre ++ [elast]).filter (C02.isFg pids)).length = pids.length) :
    (waitFg s gid pids).1.pending = post ∧
    (waitFg s gid pids).1.reap = ((pre.filter (fun e => !C02.isFg pids e)).foldl parkF s).reap ∧
    (waitFg s gid pids).1.kill = ((pre.filter (fun e => !C02.isFg pids e)).foldl parkF s).kill ∧
    (waitFg s gid pids).1.stop = ((pre.filter (fun e => !C02.isFg pids e)).foldl parkF s).stop ∧
    (waitFg s gid pids).1.cont = ((pre.filter (fun e => !C02.isFg pids e)).foldl parkF s).cont ∧
    (waitFg s gid pids).1.jobs.map (fun j => (j.id, j.gid, j.pids)) =
      (s.jobs.filter (fun x => decide (x.id ≠ j0.id))).map (fun j => (j.id, j.gid, j.pids)) ∧
    ((∀ j ∈ s.jobs, j.gid ≠ 0) → (waitFg s gid pids).1.jobs = s.jobs.filter (fun x => decide (x.id ≠ j0.id))) := by
  unfold waitFg
  simp only [hne, ↓reduceIte]
  rw [hq]
  apply waitFgGo_exact_core gid pids post elast hlast pre s 0 0 j0 hfind (by rw [hpids]; rfl) ?_ hown
    (by omega)
  intro e he hfg
  refine ⟨hterm e he hfg, ?_⟩
  rw [hpids]
  simpa [C02.isFg] using hfg

/-! ### non-vacuity -/

def waitExJ1 : Job := { id := 1, gid := 11, pids := [11, 12, 13] }
def waitExJ2 : Job := { id := 2, gid := 50, pids := [50] }
def waitExPre : List Ev := [.exited 13 5, .exited 50 1, .stopped 77 19, .killed 11 9]
def waitExPost : List Ev := [.exited 50 7, .continued 50]
def waitExS : Sh := { jobs := [waitExJ1, waitExJ2], pending := waitExPre ++ Ev.exited 12 0 :: waitExPost }

example :
    findGid waitExS 11 = some waitExJ1 ∧ waitExJ1.pids = [11, 12, 13] ∧ [11, 12, 13] ≠ ([] : List Pid) ∧
    (∀ j ∈ waitExS.jobs, j.gid ≠ 0) ∧
    waitExS.pending = waitExPre ++ Ev.exited 12 0 :: waitExPost ∧
    C02.isFg [11, 12, 13] (.exited 12 0) = true ∧
    (∀ e ∈ waitExPre ++ [Ev.exited 12 0], C02.isFg [11, 12, 13] e = true → exitLike e = true) ∧
    (((waitExPre ++ [Ev.exited 12 0]).filter (C02.isFg [11, 12, 13])).map Ev.pid).Nodup ∧
    ((waitExPre ++ [Ev.exited 12 0]).filter (C02.isFg [11, 12, 13])).length = [11, 12, 13].length := by decide +kernel

example :
    (waitFg waitExS 11 [11, 12, 13]).2 = 5 ∧
    (waitFg waitExS 11 [11, 12, 13]).1.pending = [.exited 50 7, .continued 50] ∧
    (waitFg waitExS 11 [11, 12, 13]).1.reap = [(50, 1)] ∧
    (waitFg waitExS 11 [11, 12, 13]).1.kill = [] ∧
    (waitFg waitExS 11 [11, 12, 13]).1.stop = [77] ∧
    (waitFg waitExS 11 [11, 12, 13]).1.cont = [] ∧
    (waitFg waitExS 11 [11, 12, 13]).1.jobs = [waitExJ2] := by decide +kernel

/-- without the guard `hz` the full equality fails: with a job of group id 0 in the table, a stop of an unrelated child
(pid 77) consumed by the wait for job 1 lands in that job's `stoppedSet` (and, here, flips it to "Stopped") — the model
(= the implementation: `mark_job_member_stopped(pid, 0)`) — while the hypotheses of `wait_returns_exactly_core` hold -/
theorem wait_gid0_witness :
    let s : Sh := { jobs := [waitExJ1, { id := 2, gid := 0, pids := [77] }],
                    pending := [.stopped 77 19, .exited 13 5, .killed 11 9, .exited 12 0] }
    (waitFg s 11 [11, 12, 13]).1.jobs = [{ id := 2, gid := 0, pids := [77], stoppedSet := [77], status := "Stopped", isBg := true }] ∧
    (waitFg s 11 [11, 12, 13]).1.stop = [77] ∧ (waitFg s 11 [11, 12, 13]).2 = 5 ∧
    findGid s 11 = some waitExJ1 ∧
    (((([.stopped 77 19, .exited 13 5, .killed 11 9] : List Ev) ++ [Ev.exited 12 0]).filter (C02.isFg [11, 12, 13])).map Ev.pid).Nodup := by
  decide +kernel

end Cicada.C06
