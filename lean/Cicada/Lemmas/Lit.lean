/-!
# String literals in closed statements

Test vectors are written `"while t\n".toList`.  A literal is by definition `String.ofList` of its characters, and
`String.toList_ofList` turns `(String.ofList l).toList` into `l`; evaluating `String.toList` on the literal instead runs
the UTF-8 decoder on a byte array, which costs the kernel time quadratic in the length of the literal.
-/

/-- replaces every `"…".toList` in the goal by the list of its characters (`String.toList_ofList`) -/
macro "lit_lists" : tactic => `(tactic| repeat rewrite [String.toList_ofList (l := _)])
