import Cicada.Spec.C12
/-! Brace expansion (C12): `brace_getitem` / `brace_getgroup` on a rendered brace term, by the recursor of brace terms. -/
namespace Cicada.C12
open Cicada

theorem prod_nil_right (out : List Str) : prod out [[]] = out := by
  simp [prod]
theorem prod_unit_left (g : List Str) : prod [[]] g = g := by
  simp [prod]
theorem prod_assoc (a b c : List Str) : prod (prod a b) c = prod a (prod b c) := by
  simp [prod, List.flatMap_assoc, List.map_flatMap, List.flatMap_map, List.append_assoc, Function.comp_def]
theorem prod_lit (out : List Str) (c : Char) : prod out [[c]] = out.map (· ++ [c]) := by
  induction out with
  | nil => simp [prod]
  | cons x xs ih => simp_all [prod, List.flatMap_cons]

theorem fuel_succ : ∀ f : Nat,
    (∀ out s d r, braceItem f out s d = some r → braceItem (f + 1) out s d = some r) ∧
    (∀ out cm s d r, braceGroup f out cm s d = some r → braceGroup (f + 1) out cm s d = some r) := by
  intro f
  induction f with
  | zero => exact ⟨by simp [braceItem], by simp [braceGroup]⟩
  | succ n ih =>
    obtain ⟨ihI, ihG⟩ := ih
    constructor
    · intro out s d r h
      cases s with
      | nil => exact h
      | cons c cs =>
        simp only [braceItem] at h ⊢
        split at h
        · rw [if_pos ‹_›]; exact h
        · rw [if_neg ‹_›]
          split at h
          · rw [if_pos ‹_›]
            split at h
            · cases h
            · rw [ihG _ _ _ _ _ ‹_›]; exact ihI _ _ _ _ h
            · rw [ihG _ _ _ _ _ ‹_›]; exact ihI _ _ _ _ h
          · rw [if_neg ‹_›]
            split at h
            · rw [if_pos ‹_›]
              split at h
              · exact ihI _ _ _ _ h
              · exact ihI _ _ _ _ h
            · rw [if_neg ‹_›]; exact ihI _ _ _ _ h
    · intro out cm s d r h
      cases s with
      | nil => exact h
      | cons c0 cs0 =>
        simp only [braceGroup] at h ⊢
        split at h
        · cases h
        · rw [ihI _ _ _ _ ‹_›]; exact h
        · rw [ihI _ _ _ _ ‹_›]
          dsimp only
          split at h
          · rw [if_pos ‹_›]; exact h
          · rw [if_neg ‹_›]
            split at h
            · rw [if_pos ‹_›]; exact ihG _ _ _ _ _ h
            · rw [if_neg ‹_›]; exact ihG _ _ _ _ _ h
theorem braceItem_fuel_mono {f g : Nat} (h : f ≤ g) {out s d r} : braceItem f out s d = some r → braceItem g out s d = some r := by
  induction h with
  | refl => exact id
  | step _ ih => exact fun x => (fuel_succ _).1 _ _ _ _ (ih x)
theorem braceGroup_fuel_mono {f g : Nat} (h : f ≤ g) {out cm s d r} : braceGroup f out cm s d = some r → braceGroup g out cm s d = some r := by
  induction h with
  | refl => exact id
  | step _ ih => exact fun x => (fuel_succ _).2 _ _ _ _ _ (ih x)


theorem plainC_facts {c : Char} (h : plainC c = true) : c ≠ '{' ∧ c ≠ '}' ∧ c ≠ ',' ∧ c ≠ '\\' := by
  simp only [plainC, Bool.and_eq_true, decide_eq_true_eq, ne_eq] at h
  exact ⟨h.1.1.1, h.1.1.2, h.1.2, h.2⟩

theorem braceItem_plain {c : Char} (h : plainC c = true) (f : Nat) (out : List Str) (cs : Str) (d : Nat) :
    braceItem (f + 1) out (c :: cs) d = braceItem f (out.map (· ++ [c])) cs d := by
  obtain ⟨p1, p2, p3, p4⟩ := plainC_facts h
  simp [braceItem, p1, p2, p3, p4]

theorem braceItem_stop {c : Char} (hc : c = ',' ∨ c = '}') {d : Nat} (hd : d > 0) (f : Nat) (out : List Str) (cs : Str) :
    braceItem (f + 1) out (c :: cs) d = some (out, c :: cs) := by
  simp [braceItem, hd, hc]

theorem braceItem_group {f d : Nat} {cs s' : Str} {grp : List Str}
    (h : braceGroup f [] false cs (d + 1) = some (some (grp, s'))) (out : List Str) :
    braceItem (f + 1) out ('{' :: cs) d = braceItem f (prod out grp) s' d := by
  simp [braceItem, h]

theorem braceGroup_close {f d : Nat} {s cs : Str} {g : List Str} (h : braceItem f [[]] s d = some (g, '}' :: cs))
    (out : List Str) (cm : Bool) :
    braceGroup (f + 1) out cm s d =
      some (some (if cm then out ++ g else (out ++ g).map (fun x => '{' :: x ++ ['}']), cs)) := by
  cases s with
  | nil => cases f <;> simp [braceItem] at h
  | cons c0 cs0 => cases cm <;> simp [braceGroup, h]

theorem braceGroup_comma {f d : Nat} {s cs : Str} {g : List Str} (h : braceItem f [[]] s d = some (g, ',' :: cs))
    (out : List Str) (cm : Bool) :
    braceGroup (f + 1) out cm s d = braceGroup f (out ++ g) true cs d := by
  cases s with
  | nil => cases f <;> simp [braceItem] at h
  | cons c0 cs0 => simp [braceGroup, h]

/-! The three statements of the induction are about the continuation: what the reader answers on `rest` once the product is
accumulated is what it answers on `render w ++ rest`; so neither a fuel bound nor the value of the answer is needed. -/

def ItemW (w : Word) : Prop :=
  ∀ (out : List Str) (rest : Str) (d f : Nat) (res), okW w = true →
    braceItem f (prod out (denote w)) rest d = some res → ∃ g, braceItem g out (render w ++ rest) d = some res

def ItemT (t : Term) : Prop :=
  ∀ (out : List Str) (rest : Str) (d f : Nat) (res), okT t = true →
    braceItem f (prod out (denoteT t)) rest d = some res → ∃ g, braceItem g out (renderT t ++ rest) d = some res

def GroupA (a : Alts) : Prop :=
  ∀ (out : List Str) (cm : Bool) (rest : Str) (d : Nat), okA a = true → d > 0 →
    ∃ g, braceGroup g out cm (renderA a ++ '}' :: rest) d =
      some (some (if cm = true ∨ isOne a = false then out ++ denoteA a
        else (out ++ denoteA a).map (fun x => '{' :: x ++ ['}']), rest))

theorem denoteT_grp (a : Alts) :
    denoteT (.grp a) = if isOne a = false then denoteA a else (denoteA a).map (fun x => '{' :: x ++ ['}']) := by
  cases a <;> simp [denoteT, denoteA, isOne]

theorem itemW_nil : ItemW .nil := by
  intro out rest d f res _ h
  exact ⟨f, by simpa [render, denote, prod_nil_right] using h⟩

theorem itemW_cons (t : Term) (w : Word) (ht : ItemT t) (hw : ItemW w) : ItemW (.cons t w) := by
  intro out rest d f res hok h
  simp only [okW, Bool.and_eq_true] at hok
  rw [denote, ← prod_assoc] at h
  obtain ⟨g, hg⟩ := hw _ rest d f res hok.2 h
  obtain ⟨g', hg'⟩ := ht out (render w ++ rest) d g res hok.1 hg
  exact ⟨g', by simpa [render, List.append_assoc] using hg'⟩

theorem itemT_lit (c : Char) : ItemT (.lit c) := by
  intro out rest d f res hok h
  refine ⟨f + 1, ?_⟩
  rw [denoteT, prod_lit] at h
  rw [renderT, List.singleton_append, braceItem_plain (by simpa [okT] using hok)]
  exact h

theorem itemT_grp (a : Alts) (ha : GroupA a) : ItemT (.grp a) := by
  intro out rest d f res hok h
  obtain ⟨g, hg⟩ := ha [] false rest (d + 1) (by simpa [okT] using hok) (Nat.succ_pos d)
  refine ⟨max f g + 1, ?_⟩
  have e : renderT (.grp a) ++ rest = '{' :: (renderA a ++ '}' :: rest) := by simp [renderT]
  rw [e, braceItem_group (braceGroup_fuel_mono (Nat.le_max_right f g) hg)]
  simpa [denoteT_grp] using braceItem_fuel_mono (Nat.le_max_left f g) h

theorem item_upto {c : Char} (hc : c = ',' ∨ c = '}') {w : Word} (hw : ItemW w) (hok : okW w = true)
    {d : Nat} (hd : d > 0) (rest : Str) :
    ∃ g, braceItem g [[]] (render w ++ c :: rest) d = some (denote w, c :: rest) :=
  hw [[]] (c :: rest) d 1 _ hok (by rw [prod_unit_left]; exact braceItem_stop hc hd 0 _ _)

theorem groupA_one (w : Word) (hw : ItemW w) : GroupA (.one w) := by
  intro out cm rest d hok hd
  obtain ⟨g, hg⟩ := item_upto (Or.inr rfl) hw (by simpa [okA] using hok) hd rest
  refine ⟨g + 1, ?_⟩
  rw [renderA, braceGroup_close hg]
  cases cm <;> simp [isOne, denoteA]

theorem groupA_more (w : Word) (r : Alts) (hw : ItemW w) (hr : GroupA r) : GroupA (.more w r) := by
  intro out cm rest d hok hd
  simp only [okA, Bool.and_eq_true] at hok
  obtain ⟨g1, hg1⟩ := item_upto (Or.inl rfl) hw hok.1 hd (renderA r ++ '}' :: rest)
  obtain ⟨g2, hg2⟩ := hr (out ++ denote w) true rest d hok.2 hd
  refine ⟨max g1 g2 + 1, ?_⟩
  have e : renderA (.more w r) ++ '}' :: rest = render w ++ ',' :: (renderA r ++ '}' :: rest) := by
    simp [renderA, List.append_assoc]
  rw [e, braceGroup_comma (braceItem_fuel_mono (Nat.le_max_left g1 g2) hg1), braceGroup_fuel_mono (Nat.le_max_right g1 g2) hg2]
  simp [isOne, denoteA, List.append_assoc]

theorem itemW (w : Word) : ItemW w :=
  Word.rec (motive_1 := ItemW) (motive_2 := ItemT) (motive_3 := GroupA)
    itemW_nil itemW_cons itemT_lit itemT_grp groupA_one groupA_more w

theorem groupAlts (a : Alts) : GroupA a :=
  Alts.rec (motive_1 := ItemW) (motive_2 := ItemT) (motive_3 := GroupA)
    itemW_nil itemW_cons itemT_lit itemT_grp groupA_one groupA_more a

theorem groupOne (w : Word) : ∀ (rest : Str) (d : Nat), okW w = true → d > 0 →
    ∃ g, braceGroup g [] false (render w ++ '}' :: rest) d =
      some (some ((denote w).map (fun x => '{' :: x ++ ['}']), rest)) := by
  intro rest d hok hd
  simpa [isOne, denoteA, renderA] using groupAlts (.one w) [] false rest d (by simpa [okA] using hok) hd

theorem groupA (a : Alts) : ∀ (out : List Str) (cm : Bool) (rest : Str) (d : Nat), okA a = true → d > 0 →
    (cm = true ∨ isOne a = false) →
    ∃ g, braceGroup g out cm (renderA a ++ '}' :: rest) d = some (some (out ++ denoteA a, rest)) := by
  intro out cm rest d hok hd hc
  simpa [hc] using groupAlts a out cm rest d hok hd

end Cicada.C12
