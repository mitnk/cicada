import Cicada.Lemmas.C06Refine
/-!
# C06 — lemmas for the refinement `modelView ~ specView` with stop / continue events on MULTI-process jobs

Third class of histories (after the exit-only class and the single-process class of `Lemmas/C06Refine.lean`):
jobs with several processes, never waited for in the foreground, where a stop / continue hits the whole job before the next poll.

* `okOpM` / `wfFromM` : the decidable guard (ghost state: the never-forgetting world `gStep` and the list `dirty` of the
  pids notified since the last poll).
* `JB` : the table job against the world job BETWEEN polls (two phases: Running with an empty stopped set, Stopped with
  every pid in the stopped set), modulo the notifications in flight `inflSt`.
* `JP` : the same DURING a poll (`try_wait_bg_jobs` applies the parked notifications one process at a time: the stopped
  set grows / shrinks member by member, the status flips at the last one); it relies on the world job being *uniform*
  (no stopped member, or no running member), which the guard checks at each poll.

The single-process class of `Lemmas/C06Refine.lean` is not a sub-case: there a stopped process may be killed, here an exit or a
kill needs a running process in a job without a stopped member (the table does not recompute the status at a removal).
-/
namespace Cicada.C06
open Cicada.Jobs

/-- the world job is uniform: no stopped member, or no running member -/
def uniformJ (j : WJob) : Bool :=
  j.procs.all (fun pr => pr.2 ≠ .stopped) || j.procs.all (fun pr => pr.2 ≠ .running)

/-- one operation is admissible after the history that produced the ghost world `w`, `dirty` being the pids notified since
the last poll.
* launch: a non-empty list of pairwise distinct, never used pids under a never used group id;
* every notification goes to a process without a notification since the last poll
  (`!dirty.contains p`: this is what refuses KF-C06-parked-sets);
* exit / kill: of a running process of a job in which NO member is stopped, and
* stop: of a running process of a job in which no member's exit is still unapplied (gone and dirty)
  (these two refuse KF-C06-status-not-reevaluated, first half: a member leaves while a sibling's stop is recorded or about
  to be recorded — the status is not recomputed at the removal);
* continue: of a stopped process;
* poll: every job is uniform — the stops / continues since the last poll have hit all the live members of the job
  (refuses KF-C06-status-not-reevaluated, second half: only some members continue);
* no foreground wait (refuses KF-C06-fg-continue-dropped, which needs one). -/
def okOpM (w : List WJob) (dirty : List Pid) : Op → Bool
  | .launch _ gid pids => !pids.isEmpty && decide pids.Nodup && pids.all (fun p => !everLaunched w p) && !(w.any (·.gid = gid))
  | .ev (.exited p _) => !dirty.contains p &&
      w.any fun j => j.procs.any (fun pr => pr.1 = p ∧ pr.2 = .running) && j.procs.all (fun pr => pr.2 ≠ .stopped)
  | .ev (.killed p _) => !dirty.contains p &&
      w.any fun j => j.procs.any (fun pr => pr.1 = p ∧ pr.2 = .running) && j.procs.all (fun pr => pr.2 ≠ .stopped)
  | .ev (.stopped p _) => !dirty.contains p &&
      w.any fun j => j.procs.any (fun pr => pr.1 = p ∧ pr.2 = .running) && j.procs.all (fun pr => !(pr.2 = .gone && dirty.contains pr.1))
  | .ev (.continued p) => !dirty.contains p && w.any fun j => j.procs.any (fun pr => pr.1 = p ∧ pr.2 = .stopped)
  | .waitFg _ _ => false
  | .poll => w.all uniformJ

def wfFromM (w : List WJob) (dirty : List Pid) : List Op → Bool
  | [] => true
  | o :: os => okOpM w dirty o && wfFromM (gStep w o) (dirtyStep dirty o) os

/-! ### the table against the ghost world, modulo the notifications in flight -/

/-- between two polls: the job is Running with an empty stopped set — its members have exits or stops in flight, not both
kinds (at the poll `try_wait_bg_jobs` would remove a member of a job whose sibling's stop is being recorded, and the status is
not recomputed: `C06_exit_then_stop_diverges`; the two clauses of `okOpM` on exits and stops keep this out), those without are
not stopped — or Stopped with exactly its pids in the stopped set — its members have only continues in flight, those without
are not running -/
def JB (j : Job) (wj : WJob) (D : List (Pid × PState)) : Prop :=
  j.pids = kept (D.map (·.1)) wj ∧ j.pids ≠ [] ∧
  ((j.status = "Running" ∧ j.stoppedSet = [] ∧
      (∀ pr ∈ wj.procs, pr.1 ∉ D.map (·.1) → pr.2 ≠ .stopped) ∧
      (∀ pr ∈ wj.procs, (pr.1, PState.running) ∉ D) ∧
      ¬ ((∃ pr ∈ wj.procs, (pr.1, PState.gone) ∈ D) ∧ (∃ pr ∈ wj.procs, (pr.1, PState.stopped) ∈ D))) ∨
   (j.status = "Stopped" ∧ j.stoppedSet.Nodup ∧ (∀ p, p ∈ j.stoppedSet ↔ p ∈ j.pids) ∧
      (∀ pr ∈ wj.procs, pr.1 ∉ D.map (·.1) → pr.2 ≠ .running) ∧
      (∀ pr ∈ wj.procs, ∀ r, (pr.1, r) ∈ D → r = .running)))

/-- during a poll, the world job being uniform.  No running member: the parked stops are applied one by one (a pid is in
the stopped set exactly when its stop is no longer in flight; Stopped exactly when all are in).  No stopped member:
Running with an empty stopped set and only exits in flight, or Stopped with the continues being applied one by one (a
pid is in the stopped set exactly when its continue is still in flight) -/
def JP (j : Job) (wj : WJob) (D : List (Pid × PState)) : Prop :=
  j.pids = kept (D.map (·.1)) wj ∧ j.pids ≠ [] ∧ j.stoppedSet.Nodup ∧ (∀ p ∈ j.stoppedSet, p ∈ j.pids) ∧
  (((∀ pr ∈ wj.procs, pr.2 ≠ .running) ∧ (∀ pr ∈ wj.procs, ∀ r, (pr.1, r) ∈ D → r = .stopped) ∧
      (∀ p ∈ j.pids, p ∈ j.stoppedSet ↔ p ∉ D.map (·.1)) ∧
      ((j.status = "Stopped" ∧ ∀ p ∈ j.pids, p ∈ j.stoppedSet) ∨ (j.status = "Running" ∧ ∃ p ∈ j.pids, p ∉ j.stoppedSet))) ∨
   ((∀ pr ∈ wj.procs, pr.2 ≠ .stopped) ∧
      ((j.status = "Running" ∧ j.stoppedSet = [] ∧ ∀ pr ∈ wj.procs, ∀ r, (pr.1, r) ∈ D → r = .gone) ∨
       (j.status = "Stopped" ∧ j.stoppedSet ≠ [] ∧ (∀ pr ∈ wj.procs, ∀ r, (pr.1, r) ∈ D → r = .running) ∧
          ∀ p ∈ j.pids, p ∈ j.stoppedSet ↔ p ∈ D.map (·.1)))))

theorem JB_local : Local JB := by
  intro j wj D D' h hj
  have hk := keys_congr h
  have hkept : kept (D.map (·.1)) wj = kept (D'.map (·.1)) wj := kept_congr _ _ wj hk
  have hm : ∀ pr ∈ wj.procs, ∀ r, ((pr.1, r) ∈ D ↔ (pr.1, r) ∈ D') := fun pr hpr r => h (pr.1, r) (procs_pidsOf (pr := pr) hpr)
  obtain ⟨h1, h2, h3⟩ := hj
  refine ⟨by rw [← hkept]; exact h1, h2, ?_⟩
  rcases h3 with ⟨a, b, c, d, e⟩ | ⟨a, b, c, d, e⟩
  · left
    refine ⟨a, b, ?_, ?_, ?_⟩
    · intro pr hpr hn
      exact c pr hpr (fun x => hn ((hk pr.1 (procs_pidsOf hpr)).mp x))
    · intro pr hpr x
      exact d pr hpr ((hm pr hpr _).mpr x)
    · rintro ⟨⟨pr, hpr, x⟩, ⟨pr', hpr', x'⟩⟩
      exact e ⟨⟨pr, hpr, (hm pr hpr _).mpr x⟩, ⟨pr', hpr', (hm pr' hpr' _).mpr x'⟩⟩
  · right
    refine ⟨a, b, c, ?_, ?_⟩
    · intro pr hpr hn
      exact d pr hpr (fun x => hn ((hk pr.1 (procs_pidsOf hpr)).mp x))
    · intro pr hpr r x
      exact e pr hpr r ((hm pr hpr r).mpr x)

theorem JP_local : Local JP := by
  intro j wj D D' h hj
  have hk := keys_congr h
  have hkept : kept (D.map (·.1)) wj = kept (D'.map (·.1)) wj := kept_congr _ _ wj hk
  have hm : ∀ pr ∈ wj.procs, ∀ r, ((pr.1, r) ∈ D ↔ (pr.1, r) ∈ D') := fun pr hpr r => h (pr.1, r) (procs_pidsOf (pr := pr) hpr)
  obtain ⟨h1, h2, h3, h4, h5⟩ := hj
  have hkp : ∀ p ∈ j.pids, (p ∈ D.map (·.1) ↔ p ∈ D'.map (·.1)) := by
    intro p hp
    rw [h1] at hp
    exact hk p (kept_sub _ wj p hp)
  refine ⟨by rw [← hkept]; exact h1, h2, h3, h4, ?_⟩
  rcases h5 with ⟨a, b, c, d⟩ | ⟨a, b⟩
  · left
    refine ⟨a, fun pr hpr r x => b pr hpr r ((hm pr hpr r).mpr x), ?_, d⟩
    intro p hp
    rw [c p hp, hkp p hp]
  · right
    refine ⟨a, ?_⟩
    rcases b with ⟨b1, b2, b3⟩ | ⟨b1, b2, b3, b4⟩
    · left
      exact ⟨b1, b2, fun pr hpr r x => b3 pr hpr r ((hm pr hpr r).mpr x)⟩
    · right
      refine ⟨b1, b2, fun pr hpr r x => b3 pr hpr r ((hm pr hpr r).mpr x), ?_⟩
      intro p hp
      rw [b4 p hp, hkp p hp]

/-- the job of a process that is not gone and has nothing in flight, when that process is notified; the three side conditions
are what the guard `okOpM` gives for the three kinds of result -/
theorem JB_ev {gw : List WJob} (hgw : GWM gw) {D : List (Pid × PState)} (hcons : ∀ x ∈ D, ∃ wj ∈ gw, x ∈ wj.procs)
    {wq : WJob} (hwq : wq ∈ gw) {p : Pid} {stq r : PState} (hpq : (p, stq) ∈ wq.procs) (hlive : stq ≠ .gone)
    (hfree : p ∉ D.map (·.1))
    (g1 : r = .gone → stq = .running ∧ ∀ pr ∈ wq.procs, pr.2 ≠ .stopped)
    (g2 : r = .stopped → stq = .running ∧ ∀ pr ∈ wq.procs, ¬ (pr.2 = .gone ∧ pr.1 ∈ D.map (·.1)))
    (g3 : r = .running → stq = .stopped) {j : Job} (hjb : JB j wq D) : JB j (setJob p r wq) ((p, r) :: D) := by
  have hmemD : ∀ x, x ∈ (p, r) :: D ↔ x = (p, r) ∨ x ∈ D := fun x => List.mem_cons
  have hmemK : ∀ x, x ∈ ((p, r) :: D).map (·.1) ↔ x ∈ D.map (·.1) ∨ x = p := by
    intro x
    rw [List.map_cons, List.mem_cons]
    exact Or.comm
  have huniq : ∀ pr ∈ wq.procs, pr.1 = p → pr.2 = stq := by
    intro pr hpr hpp
    have : (p, pr.2) ∈ wq.procs := by rw [← hpp]; exact hpr
    exact entry_unique hgw hwq this hpq
  have hkept : kept (((p, r) :: D).map (·.1)) (setJob p r wq) = kept (D.map (·.1)) wq :=
    kept_set _ _ p r wq hmemK (fun pr hpr hpp => by rw [huniq pr hpr hpp]; exact hlive)
  have hent : ∀ x ∈ (setJob p r wq).procs, (x ∈ wq.procs ∧ x.1 ≠ p) ∨ x = (p, r) := by
    intro x hx
    rcases setJob_mem p r wq x hx with ⟨h1, h2⟩ | ⟨h1, _⟩
    · left
      refine ⟨h1, ?_⟩
      intro hpp
      rcases h2 with h2 | h2
      · exact h2 hpp
      · exact hlive (by rw [← huniq x h1 hpp]; exact h2)
    · exact Or.inr h1
  have hpk' : p ∈ ((p, r) :: D).map (·.1) := (hmemK p).mpr (Or.inr rfl)
  obtain ⟨k1, k2, k3⟩ := hjb
  refine ⟨by rw [hkept]; exact k1, k2, ?_⟩
  rcases k3 with ⟨a, b, c, d, e'⟩ | ⟨a, b, c, d, e'⟩
  · -- Running
    have hnr : r ≠ .running := fun hrr => c _ hpq hfree (g3 hrr)
    left
    refine ⟨a, b, ?_, ?_, ?_⟩
    · intro x hx hn
      rcases hent x hx with ⟨h1, h2⟩ | rfl
      · exact c x h1 (fun y => hn ((hmemK _).mpr (Or.inl y)))
      · exact absurd hpk' hn
    · intro x hx hin
      rcases (hmemD _).mp hin with heq | hin
      · exact hnr (Prod.mk.inj heq).2.symm
      · rcases hent x hx with ⟨h1, h2⟩ | rfl
        · exact d x h1 hin
        · exact hfree (List.mem_map.mpr ⟨_, hin, rfl⟩)
    · rintro ⟨⟨x, hx, hxg⟩, ⟨y, hy, hys⟩⟩
      have hxm : x.1 ∈ wq.pidsOf := by rw [← setJob_pidsOf p r wq]; exact procs_pidsOf hx
      have hym : y.1 ∈ wq.pidsOf := by rw [← setJob_pidsOf p r wq]; exact procs_pidsOf hy
      cases hrc : r with
      | running => exact hnr hrc
      | gone =>
        -- an exit: no member is stopped, so no stop is in flight
        rcases (hmemD _).mp hys with heq | hin
        · rw [hrc] at heq; cases (Prod.mk.inj heq).2
        · exact (g1 hrc).2 _ (cons_here hgw hcons hwq hym hin) rfl
      | stopped =>
        -- a stop: no member's exit is in flight
        rcases (hmemD _).mp hxg with heq | hin
        · rw [hrc] at heq; cases (Prod.mk.inj heq).2
        · exact (g2 hrc).2 _ (cons_here hgw hcons hwq hxm hin) ⟨rfl, List.mem_map.mpr ⟨_, hin, rfl⟩⟩
  · -- Stopped
    have hrr : r = .running := by
      cases hrc : r with
      | running => rfl
      | gone => exact absurd (g1 hrc).1 (d _ hpq hfree)
      | stopped => exact absurd (g2 hrc).1 (d _ hpq hfree)
    right
    refine ⟨a, b, c, ?_, ?_⟩
    · intro x hx hn
      rcases hent x hx with ⟨h1, h2⟩ | rfl
      · exact d x h1 (fun y => hn ((hmemK _).mpr (Or.inl y)))
      · exact absurd hpk' hn
    · intro x hx r' hin
      rcases (hmemD _).mp hin with heq | hin
      · rw [(Prod.mk.inj heq).2, hrr]
      · rcases hent x hx with ⟨h1, h2⟩ | rfl
        · exact e' x h1 r' hin
        · exact absurd (List.mem_map.mpr ⟨_, hin, rfl⟩) hfree

/-! ### between polls ↔ during a poll -/

theorem PState.trichotomy {st : PState} (h1 : st ≠ .running) (h2 : st ≠ .stopped) (h3 : st ≠ .gone) : False := by
  cases st
  · exact h1 rfl
  · exact h2 rfl
  · exact h3 rfl

theorem uniformJ_iff (wj : WJob) : uniformJ wj = true ↔ (∀ pr ∈ wj.procs, pr.2 ≠ .stopped) ∨ (∀ pr ∈ wj.procs, pr.2 ≠ .running) := by
  simp [uniformJ]

theorem JB_to_JP {gw : List WJob} (hgw : GWM gw) {D : List (Pid × PState)} (hcons : ∀ x ∈ D, ∃ wj ∈ gw, x ∈ wj.procs)
    {wj : WJob} (hwj : wj ∈ gw) (hU : uniformJ wj = true) {j : Job} (h : JB j wj D) : JP j wj D := by
  obtain ⟨k1, k2, k3⟩ := h
  have hhere : ∀ pr ∈ wj.procs, ∀ r, (pr.1, r) ∈ D → r = pr.2 := by
    intro pr hpr r hin
    exact entry_unique hgw hwj (cons_here hgw hcons hwj (procs_pidsOf hpr) hin) hpr
  have hkeptmem : ∀ p ∈ j.pids, ∃ st, (p, st) ∈ wj.procs ∧ (st ≠ .gone ∨ p ∈ D.map (·.1)) := by
    intro p hp
    rw [k1] at hp
    exact (mem_kept _ wj p).mp hp
  rcases k3 with ⟨a, b, c, d, e⟩ | ⟨a, b, c, d, e⟩
  · have hT1 : j.stoppedSet.Nodup := by rw [b]; exact List.nodup_nil
    have hT2 : ∀ p ∈ j.stoppedSet, p ∈ j.pids := by rw [b]; intro p hp; cases hp
    refine ⟨k1, k2, hT1, hT2, ?_⟩
    rcases (uniformJ_iff wj).mp hU with hU | hU
    · right
      refine ⟨hU, Or.inl ⟨a, b, ?_⟩⟩
      intro pr hpr r hin
      have := hhere pr hpr r hin
      cases hr : r with
      | gone => rfl
      | running => rw [hr] at hin; exact absurd hin (d pr hpr)
      | stopped => rw [hr] at this; exact absurd this.symm (hU pr hpr)
    · by_cases hex : ∃ pr ∈ wj.procs, (pr.1, PState.gone) ∈ D
      · have hnos : ∀ pr ∈ wj.procs, (pr.1, PState.stopped) ∉ D := fun pr hpr hin => e ⟨hex, ⟨pr, hpr, hin⟩⟩
        right
        refine ⟨?_, Or.inl ⟨a, b, ?_⟩⟩
        · intro pr hpr hst
          by_cases hk : pr.1 ∈ D.map (·.1)
          · obtain ⟨r, hin⟩ := (mem_keys D pr.1).mp hk
            have := hhere pr hpr r hin
            rw [this, hst] at hin
            exact hnos pr hpr hin
          · exact c pr hpr hk hst
        · intro pr hpr r hin
          cases hr : r with
          | gone => rfl
          | running => rw [hr] at hin; exact absurd hin (d pr hpr)
          | stopped => rw [hr] at hin; exact absurd hin (hnos pr hpr)
      · left
        have hallk : ∀ p ∈ j.pids, p ∈ D.map (·.1) := by
          intro p hp
          obtain ⟨st, h1, h2⟩ := hkeptmem p hp
          by_cases hk : p ∈ D.map (·.1)
          · exact hk
          · exfalso
            rcases h2 with h2 | h2
            · exact PState.trichotomy (hU _ h1) (c _ h1 hk) h2
            · exact hk h2
        refine ⟨hU, ?_, ?_, Or.inr ⟨a, ?_⟩⟩
        · intro pr hpr r hin
          cases hr : r with
          | stopped => rfl
          | running => rw [hr] at hin; exact absurd hin (d pr hpr)
          | gone => rw [hr] at hin; exact absurd ⟨pr, hpr, hin⟩ hex
        · intro p hp
          rw [b]
          simp [hallk p hp]
        · obtain ⟨p, hp⟩ := List.exists_mem_of_ne_nil _ k2
          exact ⟨p, hp, by rw [b]; simp⟩
  · refine ⟨k1, k2, b, fun p hp => (c p).mp hp, ?_⟩
    have hne : j.stoppedSet ≠ [] := by
      obtain ⟨p, hp⟩ := List.exists_mem_of_ne_nil _ k2
      exact List.ne_nil_of_mem ((c p).mpr hp)
    rcases (uniformJ_iff wj).mp hU with hU | hU
    · right
      refine ⟨hU, Or.inr ⟨a, hne, e, ?_⟩⟩
      intro p hp
      constructor
      · intro _
        obtain ⟨st, h1, h2⟩ := hkeptmem p hp
        by_cases hk : p ∈ D.map (·.1)
        · exact hk
        · exfalso
          rcases h2 with h2 | h2
          · exact PState.trichotomy (d _ h1 hk) (hU _ h1) h2
          · exact hk h2
      · intro _; exact (c p).mpr hp
    · left
      have hnofl : ∀ pr ∈ wj.procs, pr.1 ∉ D.map (·.1) := by
        intro pr hpr hk
        obtain ⟨r, hin⟩ := (mem_keys D pr.1).mp hk
        have h1 := e pr hpr r hin
        have h2 := hhere pr hpr r hin
        exact hU pr hpr (by rw [← h2, h1])
      refine ⟨hU, ?_, ?_, Or.inl ⟨a, fun p hp => (c p).mpr hp⟩⟩
      · intro pr hpr r hin
        exact absurd (List.mem_map.mpr ⟨_, hin, rfl⟩) (hnofl pr hpr)
      · intro p hp
        obtain ⟨st, h1, _⟩ := hkeptmem p hp
        have := hnofl _ h1
        simp only at this
        simp [this, (c p).mpr hp]

theorem JP_to_JB {wj : WJob} {D : List (Pid × PState)} (hno : ∀ pr ∈ wj.procs, pr.1 ∉ D.map (·.1)) {j : Job} (h : JP j wj D) :
    JB j wj D := by
  obtain ⟨k1, k2, k3, k4, k5⟩ := h
  have hmem : ∀ p ∈ j.pids, p ∉ D.map (·.1) := by
    intro p hp
    rw [k1] at hp
    obtain ⟨st, h1, _⟩ := (mem_kept _ wj p).mp hp
    exact hno _ h1
  have hnin : ∀ pr ∈ wj.procs, ∀ r, (pr.1, r) ∉ D := fun pr hpr r hin => hno pr hpr (List.mem_map.mpr ⟨_, hin, rfl⟩)
  refine ⟨k1, k2, ?_⟩
  rcases k5 with ⟨a, b, c, d⟩ | ⟨a, b⟩
  · have hall : ∀ p ∈ j.pids, p ∈ j.stoppedSet := fun p hp => (c p hp).mpr (hmem p hp)
    rcases d with ⟨d1, _⟩ | ⟨_, p, hp, hn⟩
    · right
      exact ⟨d1, k3, fun p => ⟨k4 p, hall p⟩, fun pr hpr _ => a pr hpr, fun pr hpr r hin => absurd hin (hnin pr hpr r)⟩
    · exact absurd (hall p hp) hn
  · rcases b with ⟨b1, b2, _⟩ | ⟨_, b2, _, b4⟩
    · left
      exact ⟨b1, b2, fun pr hpr _ => a pr hpr, fun pr hpr hin => hnin pr hpr _ hin, fun ⟨⟨pr, hpr, hin⟩, _⟩ => hnin pr hpr _ hin⟩
    · exfalso
      obtain ⟨p, hp⟩ := List.exists_mem_of_ne_nil _ b2
      exact hmem p (k4 p hp) ((b4 p (k4 p hp)).mp hp)

/-! ### the poll -/

theorem apF_invP (gw : List WJob) : PollStep JP gw := by
  intro gid s pid wj h hwj hgid hp
  -- the parked notification of `pid` is its entry in the world job
  have hfacts : ∀ r, (pid, r) ∈ inflSt s [] →
      (pid, r) ∈ wj.procs ∧ pid ∈ (inflSt s []).map (·.1) ∧ ∀ pr ∈ wj.procs, pr.1 = pid → pr.2 = r := by
    intro r hin
    have hpr : (pid, r) ∈ wj.procs := cons_here h.world h.cons hwj hp hin
    refine ⟨hpr, List.mem_map.mpr ⟨_, hin, rfl⟩, ?_⟩
    intro pr hpr' hpp
    have : (pid, pr.2) ∈ wj.procs := by rw [← hpp]; exact hpr'
    exact entry_unique h.world hwj this hpr
  refine apF_step JP_local (fun _ _ _ hJ => hJ.1) gid s pid gw h wj hwj hgid hp ?_ ?_ ?_
  · -- an exit or a kill: the pid leaves the table
    intro hin j0 ⟨k1, k2, k3, k4, k5⟩ hkept_wj hne'
    obtain ⟨hpr, _, _⟩ := hfacts _ hin
    -- the kind of the notification parked for `pid` selects the one disjunct of `JP` that allows that kind in flight
    obtain ⟨a, b1, b2, b3⟩ : (∀ pr ∈ wj.procs, pr.2 ≠ .stopped) ∧ j0.status = "Running" ∧ j0.stoppedSet = [] ∧
        ∀ pr ∈ wj.procs, ∀ r, (pr.1, r) ∈ inflSt s [] → r = .gone := by
      rcases k5 with ⟨_, b, _⟩ | ⟨a, ⟨b1, b2, b3⟩ | ⟨_, _, b3, _⟩⟩
      · cases b _ hpr _ hin
      · exact ⟨a, b1, b2, b3⟩
      · cases b3 _ hpr _ hin
    refine ⟨by rw [hkept_wj, ← k1], hne', (by rw [b2]; exact List.nodup_nil), (by rw [b2]; intro p hp'; cases hp'), ?_⟩
    right
    exact ⟨a, Or.inl ⟨b1, b2, fun pr hpr' r hin' => b3 pr hpr' r ((mem_minus _ pid _).mp hin').1⟩⟩
  · -- a stop: the pid joins the stopped set; Stopped when it is the last one
    intro hin j0 ⟨k1, k2, k3, k4, k5⟩
    obtain ⟨hpr, hpkeys, hstate⟩ := hfacts _ hin
    have hpin : pid ∈ j0.pids := by rw [k1]; exact (mem_kept _ wj pid).mpr ⟨_, hpr, Or.inr hpkeys⟩
    have hkept_wj : kept ((minus (inflSt s []) pid).map (·.1)) wj = kept ((inflSt s []).map (·.1)) wj :=
      kept_drop_live _ _ pid wj (keys_minus _ pid) (fun pr hpr' hpp => by rw [hstate pr hpr' hpp]; simp)
    obtain ⟨a, b, c, d⟩ : (∀ pr ∈ wj.procs, pr.2 ≠ .running) ∧ (∀ pr ∈ wj.procs, ∀ r, (pr.1, r) ∈ inflSt s [] → r = .stopped) ∧
        (∀ p ∈ j0.pids, p ∈ j0.stoppedSet ↔ p ∉ (inflSt s []).map (·.1)) ∧
        ((j0.status = "Stopped" ∧ ∀ p ∈ j0.pids, p ∈ j0.stoppedSet) ∨ (j0.status = "Running" ∧ ∃ p ∈ j0.pids, p ∉ j0.stoppedSet)) := by
      rcases k5 with hl | ⟨a, ⟨_, _, b3⟩ | ⟨_, _, b3, _⟩⟩
      · exact hl
      · cases b3 _ hpr _ hin
      · cases b3 _ hpr _ hin
    have hpT : pid ∉ j0.stoppedSet := fun x => ((c pid hpin).mp x) hpkeys
    have hst : stopSet j0 pid = j0.stoppedSet ++ [pid] := by simp [stopSet, hpT]
    have hT1 : (j0.stoppedSet ++ [pid]).Nodup := by
      rw [List.nodup_append]
      refine ⟨k3, by simp, ?_⟩
      intro x hx y hy
      simp only [List.mem_singleton] at hy
      subst hy
      exact fun e => hpT (e ▸ hx)
    have hT2 : ∀ p ∈ j0.stoppedSet ++ [pid], p ∈ j0.pids := by
      intro p hp'
      simp only [List.mem_append, List.mem_singleton] at hp'
      rcases hp' with hp' | rfl
      · exact k4 p hp'
      · exact hpin
    have hc' : ∀ p ∈ j0.pids, p ∈ j0.stoppedSet ++ [pid] ↔ p ∉ (minus (inflSt s []) pid).map (·.1) := by
      intro p hp'
      rw [keys_minus, List.mem_append, List.mem_singleton, c p hp']
      by_cases hpp : p = pid
      · simp [hpp]
      · simp [hpp]
    have hb' : ∀ pr ∈ wj.procs, ∀ r, (pr.1, r) ∈ minus (inflSt s []) pid → r = .stopped :=
      fun pr hpr' r hin' => b pr hpr' r ((mem_minus _ pid _).mp hin').1
    unfold stopAs
    simp only [hst, Job.allStopped]
    by_cases hall : j0.pids.all (fun q => (j0.stoppedSet ++ [pid]).contains q) = true
    · simp only [hall, ↓reduceIte]
      refine ⟨by rw [hkept_wj]; exact k1, k2, hT1, hT2, Or.inl ⟨a, hb', hc', Or.inl ⟨rfl, ?_⟩⟩⟩
      intro p hp'
      have := List.all_eq_true.mp hall p hp'
      simpa using this
    · simp only [hall, Bool.false_eq_true, ↓reduceIte]
      refine ⟨by rw [hkept_wj]; exact k1, k2, hT1, hT2, Or.inl ⟨a, hb', hc', Or.inr ⟨?_, ?_⟩⟩⟩
      · rcases d with ⟨_, d2⟩ | ⟨d1, _⟩
        · exact absurd (d2 pid hpin) hpT
        · exact d1
      · obtain ⟨p, hp', hn⟩ := List.all_eq_false.mp (Bool.eq_false_iff.mpr hall)
        exact ⟨p, hp', by simpa using hn⟩
  · -- a continue: the pid leaves the stopped set; Running when it is the last one
    intro hin j0 ⟨k1, k2, k3, k4, k5⟩
    obtain ⟨hpr, hpkeys, hstate⟩ := hfacts _ hin
    have hkept_wj : kept ((minus (inflSt s []) pid).map (·.1)) wj = kept ((inflSt s []).map (·.1)) wj :=
      kept_drop_live _ _ pid wj (keys_minus _ pid) (fun pr hpr' hpp => by rw [hstate pr hpr' hpp]; simp)
    obtain ⟨a, b1, b2, b3, b4⟩ : (∀ pr ∈ wj.procs, pr.2 ≠ .stopped) ∧ j0.status = "Stopped" ∧ j0.stoppedSet ≠ [] ∧
        (∀ pr ∈ wj.procs, ∀ r, (pr.1, r) ∈ inflSt s [] → r = .running) ∧
        ∀ p ∈ j0.pids, p ∈ j0.stoppedSet ↔ p ∈ (inflSt s []).map (·.1) := by
      rcases k5 with ⟨_, b, _⟩ | ⟨a, ⟨_, _, b3⟩ | ⟨b1, b2, b3, b4⟩⟩
      · cases b _ hpr _ hin
      · cases b3 _ hpr _ hin
      · exact ⟨a, b1, b2, b3, b4⟩
    have hb' : ∀ pr ∈ wj.procs, ∀ r, (pr.1, r) ∈ minus (inflSt s []) pid → r = .running :=
      fun pr hpr' r hin' => b3 pr hpr' r ((mem_minus _ pid _).mp hin').1
    unfold contAs
    by_cases hemp : (j0.stoppedSet.erase pid).isEmpty = true
    · simp only [hemp, ↓reduceIte]
      have hemp' : j0.stoppedSet.erase pid = [] := by simpa using hemp
      refine ⟨by rw [hkept_wj]; exact k1, k2, List.nodup_nil, (fun p hp' => nomatch hp'), Or.inr ⟨a, Or.inl ⟨rfl, rfl, ?_⟩⟩⟩
      intro pr hpr' r hin'
      exfalso
      obtain ⟨hinD, hne⟩ := (mem_minus _ pid _).mp hin'
      have hrr := b3 pr hpr' r hinD
      subst hrr
      have hent : (pr.1, PState.running) ∈ wj.procs := cons_here h.world h.cons hwj (procs_pidsOf hpr') hinD
      have hk : pr.1 ∈ j0.pids := by
        rw [k1]
        exact (mem_kept _ wj pr.1).mpr ⟨.running, hent, Or.inl (by simp)⟩
      have hT : pr.1 ∈ j0.stoppedSet := (b4 _ hk).mpr (List.mem_map.mpr ⟨_, hinD, rfl⟩)
      have : pr.1 ∈ j0.stoppedSet.erase pid := (List.mem_erase_of_ne hne).mpr hT
      rw [hemp'] at this
      cases this
    · simp only [hemp, Bool.false_eq_true, ↓reduceIte]
      have hne' : j0.stoppedSet.erase pid ≠ [] := by simpa using hemp
      refine ⟨by rw [hkept_wj]; exact k1, k2, k3.erase pid, fun p hp' => k4 p (List.mem_of_mem_erase hp'),
        Or.inr ⟨a, Or.inr ⟨b1, hne', hb', ?_⟩⟩⟩
      intro p hp'
      rw [k3.mem_erase_iff, keys_minus, b4 p hp']
      exact And.comm

/-- **the prompt-time poll re-establishes quiescence** when every world job is uniform: afterwards nothing is in flight
and the table is in one of the two phases "between polls" -/
theorem InvB_poll (s : Sh) (gw : List WJob) (h : InvM JB s s.pending gw) (hU : ∀ wj ∈ gw, uniformJ wj = true) :
    InvM JB (poll s) (poll s).pending gw ∧ keys1 (poll s) (poll s).pending = [] := by
  -- not `InvM_poll`: the relation changes across the poll, `JB` → `JP` (at the parking) → `JB` (once nothing is in flight)
  unfold poll
  split
  · rename_i hemp
    exact ⟨h, keys_nil_of_no_jobs (fun _ _ _ hJ => hJ.1) s _ gw h (by simpa using hemp)⟩
  · obtain ⟨h1, h2⟩ := InvM_park JB_local s gw h
    have h1P : InvM JP (park s) [] gw :=
      InvM_mono _ _ gw h1 (fun j wj hwj hJ => JB_to_JP h1.world h1.cons hwj (hU wj hwj) hJ)
    obtain ⟨a1, hk⟩ := InvM_applyParked (fun _ _ _ hJ => hJ.1) _ gw h1P h2 (apF_invP gw)
    refine ⟨InvM_mono _ _ gw a1 (fun j wj _ hJ => JP_to_JB ?_ hJ), hk⟩
    intro pr _ hin
    rw [inflSt_keys, hk] at hin
    cases hin

theorem InvB_ev_step (s : Sh) (gw : List WJob) (dirty : List Pid) (e : Ev) (h : InvM JB s s.pending gw)
    (hd : ∀ p ∈ keys1 s s.pending, p ∈ dirty) (hnd : e.pid ∉ dirty)
    (wq : WJob) (hwq : wq ∈ gw) (stq : PState) (hpq : (e.pid, stq) ∈ wq.procs) (hlive : stq ≠ .gone)
    (g1 : evRes e = .gone → stq = .running ∧ ∀ pr ∈ wq.procs, pr.2 ≠ .stopped)
    (g2 : evRes e = .stopped → stq = .running ∧ ∀ pr ∈ wq.procs, ¬ (pr.2 = .gone ∧ pr.1 ∈ dirty))
    (g3 : evRes e = .running → stq = .stopped) :
    InvM JB (step s (.ev e)).1 (step s (.ev e)).1.pending (gStep gw (.ev e)) ∧
      ∀ p ∈ keys1 (step s (.ev e)).1 (step s (.ev e)).1.pending, p ∈ dirtyStep dirty (.ev e) := by
  have hfree : e.pid ∉ (inflSt s s.pending).map (·.1) := by
    rw [inflSt_keys]
    exact fun x => hnd (hd _ x)
  have g2' : evRes e = .stopped → stq = .running ∧ ∀ pr ∈ wq.procs, ¬ (pr.2 = .gone ∧ pr.1 ∈ (inflSt s s.pending).map (·.1)) := by
    intro hr
    refine ⟨(g2 hr).1, ?_⟩
    intro pr hpr ⟨h1, h2⟩
    rw [inflSt_keys] at h2
    exact (g2 hr).2 pr hpr ⟨h1, hd _ h2⟩
  simp only [step, gStep, applyEv_set, dirtyStep]
  exact ⟨InvM_ev JB_local s gw e h wq hwq stq hpq hlive hfree (fun j hjb => JB_ev h.world h.cons hwq hpq hlive hfree g1 g2' g3 hjb),
    keys1_ev s e dirty hd⟩

theorem InvB_step (s : Sh) (gw : List WJob) (dirty : List Pid) (o : Op) (h : InvM JB s s.pending gw)
    (hd : ∀ p ∈ keys1 s s.pending, p ∈ dirty) (hok : okOpM gw dirty o = true) :
    InvM JB (step s o).1 (step s o).1.pending (gStep gw o) ∧ ∀ p ∈ keys1 (step s o).1 (step s o).1.pending, p ∈ dirtyStep dirty o := by
  cases o with
  | launch bg gid pids =>
    simp only [okOpM, Bool.and_eq_true, Bool.not_eq_true', List.isEmpty_eq_false_iff, decide_eq_true_eq, List.all_eq_true,
      List.any_eq_false] at hok
    obtain ⟨⟨⟨hne, hnd⟩, hfresh⟩, hgid⟩ := hok
    have hJ : ∀ i', (∀ p ∈ pids, ∀ r, (p, r) ∉ inflSt s s.pending) →
        JB { id := i', gid := gid, pids := pids, isBg := bg } { gid := gid, procs := pids.map (fun p => (p, PState.running)) }
          (inflSt s s.pending) := by
      intro i' hnofl
      refine ⟨(kept_new _ gid pids).symm, hne, Or.inl ⟨rfl, rfl, ?_, ?_, ?_⟩⟩
      · intro pr hpr _
        obtain ⟨p, _, rfl⟩ := List.mem_map.mp hpr
        exact fun e => nomatch e
      · intro pr hpr
        obtain ⟨p, hp, rfl⟩ := List.mem_map.mp hpr
        exact hnofl p hp _
      · rintro ⟨⟨pr, hpr, hin⟩, _⟩
        obtain ⟨p, hp, rfl⟩ := List.mem_map.mp hpr
        exact hnofl p hp _ hin
    obtain ⟨h1, h2⟩ := InvM_launch s gw bg gid pids h hne hnd hfresh hgid hJ
    exact ⟨h1, by rw [← inflSt_keys, h2, inflSt_keys]; exact hd⟩
  | ev e =>
    cases e with
    | exited p c =>
      simp only [okOpM, Bool.and_eq_true, Bool.not_eq_true', List.any_eq_true, List.all_eq_true, decide_eq_true_eq] at hok
      obtain ⟨hnd, wq, hwq, ⟨pr, hpr, hp1, hp2⟩, hall⟩ := hok
      have hpq : (p, PState.running) ∈ wq.procs := by rw [← hp1, ← hp2]; exact hpr
      exact InvB_ev_step s gw dirty (.exited p c) h hd (by simpa [Ev.pid] using hnd) wq hwq .running hpq (by simp)
        (fun _ => ⟨rfl, fun pr hpr => by simpa using hall pr hpr⟩) (fun hr => nomatch hr) (fun hr => nomatch hr)
    | killed p c =>
      simp only [okOpM, Bool.and_eq_true, Bool.not_eq_true', List.any_eq_true, List.all_eq_true, decide_eq_true_eq] at hok
      obtain ⟨hnd, wq, hwq, ⟨pr, hpr, hp1, hp2⟩, hall⟩ := hok
      have hpq : (p, PState.running) ∈ wq.procs := by rw [← hp1, ← hp2]; exact hpr
      exact InvB_ev_step s gw dirty (.killed p c) h hd (by simpa [Ev.pid] using hnd) wq hwq .running hpq (by simp)
        (fun _ => ⟨rfl, fun pr hpr => by simpa using hall pr hpr⟩) (fun hr => nomatch hr) (fun hr => nomatch hr)
    | stopped p c =>
      simp only [okOpM, Bool.and_eq_true, Bool.not_eq_true', List.any_eq_true, List.all_eq_true, decide_eq_true_eq] at hok
      obtain ⟨hnd, wq, hwq, ⟨pr, hpr, hp1, hp2⟩, hall⟩ := hok
      have hpq : (p, PState.running) ∈ wq.procs := by rw [← hp1, ← hp2]; exact hpr
      exact InvB_ev_step s gw dirty (.stopped p c) h hd (by simpa [Ev.pid] using hnd) wq hwq .running hpq (by simp)
        (fun hr => nomatch hr) (fun _ => ⟨rfl, fun pr hpr ⟨h1, h2⟩ => by
          have := hall pr hpr
          simp [h1, h2] at this⟩) (fun hr => nomatch hr)
    | continued p =>
      simp only [okOpM, Bool.and_eq_true, Bool.not_eq_true', List.any_eq_true, decide_eq_true_eq] at hok
      obtain ⟨hnd, wq, hwq, pr, hpr, hp1, hp2⟩ := hok
      have hpq : (p, PState.stopped) ∈ wq.procs := by rw [← hp1, ← hp2]; exact hpr
      exact InvB_ev_step s gw dirty (.continued p) h hd (by simpa [Ev.pid] using hnd) wq hwq .stopped hpq (by simp)
        (fun hr => nomatch hr) (fun hr => nomatch hr) (fun _ => rfl)
  | waitFg gid pids => cases hok
  | poll =>
    have hU : ∀ wj ∈ gw, uniformJ wj = true := by
      simpa only [okOpM, List.all_eq_true] using hok
    obtain ⟨h1, h2⟩ := InvB_poll s gw h hU
    refine ⟨h1, ?_⟩
    simp only [step]
    rw [h2]
    intro p hp; cases hp

theorem InvB_run : ∀ (ops : List Op) (s : Sh) (gw : List WJob) (dirty : List Pid), InvM JB s s.pending gw →
    (∀ p ∈ keys1 s s.pending, p ∈ dirty) → wfFromM gw dirty ops = true →
    InvM JB (ops.foldl (fun s o => (step s o).1) s) (ops.foldl (fun s o => (step s o).1) s).pending (ops.foldl gStep gw) ∧
    ∀ p ∈ keys1 (ops.foldl (fun s o => (step s o).1) s) (ops.foldl (fun s o => (step s o).1) s).pending, p ∈ ops.foldl dirtyStep dirty := by
  intro ops
  induction ops with
  | nil => intro s gw d h hd _; exact ⟨h, hd⟩
  | cons o os ih =>
    intro s gw d h hd hwf
    simp only [wfFromM, Bool.and_eq_true] at hwf
    simp only [List.foldl_cons]
    obtain ⟨a1, a2⟩ := InvB_step s gw d o h hd hwf.1
    exact ih _ _ _ a1 a2 hwf.2

theorem wfFromM_fresh : ∀ (ops : List Op) (gw : List WJob) (d : List Pid), wfFromM gw d ops = true → freshFrom gw ops
  | [], _, _, _ => trivial
  | o :: os, gw, d, h => by
    simp only [wfFromM, Bool.and_eq_true] at h
    refine ⟨?_, wfFromM_fresh os _ _ h.2⟩
    rintro bg gid pids rfl
    have := h.1
    simp only [okOpM, Bool.and_eq_true, Bool.not_eq_true', List.any_eq_false] at this
    exact fun j hj => by simpa using this.2 j hj

theorem spec_entryM (j : Job) (wj : WJob) (hJ : JB j wj []) :
    j.pids = wj.live ∧ wj.live ≠ [] ∧
    (wj.procs.filter (fun p => p.2 ≠ .gone)).all (fun p => p.2 = .stopped) = decide (j.status = "Stopped") := by
  obtain ⟨k1, k2, k3⟩ := hJ
  simp only [List.map_nil, kept_nil] at k1
  have hl : wj.live ≠ [] := by rw [← k1]; exact k2
  refine ⟨k1, hl, ?_⟩
  rcases k3 with ⟨a, _, c, _, _⟩ | ⟨a, _, _, d, _⟩
  · rw [a, not_all_stopped wj hl (fun pr hpr _ => c pr hpr (fun x => nomatch x))]
    decide
  · rw [a]
    have : (wj.procs.filter (fun p => p.2 ≠ .gone)).all (fun p => p.2 = .stopped) = true := by
      apply List.all_eq_true.mpr
      intro pr hpr
      obtain ⟨h1, h2⟩ := List.mem_filter.mp hpr
      have h2' : pr.2 ≠ .gone := by simpa using h2
      exact decide_eq_true (Classical.not_not.mp fun hs => PState.trichotomy (d pr h1 (fun x => nomatch x)) hs h2')
    rw [this]
    decide

end Cicada.C06
