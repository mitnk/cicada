import Cicada.Lemmas.TermJobs
/-!
# A finished job is announced once and is then gone from the table

A job incarnation is identified by its (id, group id) pair.  `RepOk`: every pair announced as finished is absent
from the table, no pair was announced twice, and all group ids involved are pids of children forked so far — so a
later launch (whose group id is a fresh pid) can never bring an announced pair back.  That no job is filed under the shell's
own process group (`GidInv`) is read off the same facts: a child never has the shell's pid.
-/
namespace Cicada.Term
open Cicada.Jobs Cicada.C07

theorem ite_ne {α : Type} {c : Prop} [Decidable c] {a b x : α} (ha : a ≠ x) (hb : b ≠ x) : (if c then a else b) ≠ x := by
  split <;> assumption

theorem foldl_pres {α β : Type} (P : β → Prop) (f : β → α → β) (hf : ∀ b a, P b → P (f b a)) :
    ∀ (l : List α) (b : β), P b → P (l.foldl f b) := by
  intro l
  induction l with
  | nil => intro b hb; exact hb
  | cons a rest ih => intro b hb; simp only [List.foldl_cons]; exact ih _ (hf b a hb)

structure RepOk (pids : List Pid) (sh : Sh) (out : List Out) : Prop where
  tableGids : ∀ k ∈ keys sh, k.2 ∈ pids
  annGids : ∀ k ∈ finKeys out, k.2 ∈ pids
  absent : ∀ k ∈ finKeys out, k ∉ keys sh
  once : (finKeys out).Nodup

theorem finKeys_append (a b : List Out) : finKeys (a ++ b) = finKeys a ++ finKeys b := by simp [finKeys]

theorem repOk_sub {pids : List Pid} {s s' : Sh} {out out' : List Out} (h : RepOk pids s out)
    (hk : (keys s').Sublist (keys s)) (ho : finKeys out' = finKeys out) : RepOk pids s' out' := by
  refine ⟨fun k hk' => h.tableGids k (hk.subset hk'), ?_, ?_, ?_⟩
  · rw [ho]; exact h.annGids
  · rw [ho]; intro k hk1 hk2; exact h.absent k hk1 (hk.subset hk2)
  · rw [ho]; exact h.once

theorem repOk_congr {pids : List Pid} {s s' : Sh} {out out' : List Out} (h : RepOk pids s out)
    (hk : keys s' = keys s) (ho : finKeys out' = finKeys out) : RepOk pids s' out' :=
  repOk_sub h (hk ▸ List.Sublist.refl _) ho

theorem repOk_mono {pids pids' : List Pid} {s : Sh} {out : List Out} (h : RepOk pids s out) (hp : ∀ p ∈ pids, p ∈ pids') : RepOk pids' s out :=
  ⟨fun k hk => hp _ (h.tableGids k hk), fun k hk => hp _ (h.annGids k hk), h.absent, h.once⟩

theorem finKeys_ite_stopped (c : Prop) [Decidable c] (i : Nat) (g : Pid) :
    finKeys (if c then [Out.report i g "Stopped"] else []) = [] := by
  by_cases h : c <;> simp [h, finKeys, finKey]

theorem finKeys_stopOut (s : Sh) (pid gid : Pid) (r : Bool) : finKeys (stopOut s pid gid r) = [] := by
  unfold stopOut
  split
  · exact finKeys_ite_stopped _ _ _
  · rfl

theorem mem_keys_of_findGid {s : Sh} {gid : Pid} {j : Job} (h : findGid s gid = some j) : (j.id, j.gid) ∈ keys s := by
  unfold findGid at h
  simp only [keys, List.mem_map]
  exact ⟨j, List.mem_of_find?_eq_some h, rfl⟩

/-- `mark_job_as_done`: the announcement and the removal go together -/
theorem repOk_done {pids : List Pid} {s : Sh} {out : List Out} (h : RepOk pids s out) (gid pid : Pid) (w : String) (hw : w ≠ "Stopped") :
    RepOk pids (removePid s gid pid) (out ++ doneOut s gid pid w) := by
  unfold doneOut
  cases hf : findGid s gid with
  | none =>
    simp only [List.append_nil]
    exact repOk_sub h (removePid_keys _ _ _) rfl
  | some j =>
    have hjk := mem_keys_of_findGid hf
    dsimp only
    by_cases hcond : ((j.pids.erase pid).isEmpty && j.isBg) = true
    · simp only [hcond, ↓reduceIte]
      have hemp : (j.pids.erase pid).isEmpty = true := by
        simp only [Bool.and_eq_true] at hcond; exact hcond.1
      have hrem : removePid s gid pid = { s with jobs := s.jobs.filter (·.id ≠ j.id) } := by
        unfold removePid; rw [hf]; simp only [hemp, ↓reduceIte]
      have hkeys : (keys (removePid s gid pid)).Sublist (keys s) := removePid_keys _ _ _
      have hfk : finKeys (out ++ [Out.report j.id j.gid w]) = finKeys out ++ [(j.id, j.gid)] := by
        simp [finKeys, finKey, hw]
      have hnew : (j.id, j.gid) ∉ finKeys out := fun hin => h.absent _ hin hjk
      refine ⟨fun k hk => h.tableGids k (hkeys.subset hk), ?_, ?_, ?_⟩
      · rw [hfk]; intro k hk
        simp only [List.mem_append, List.mem_singleton] at hk
        rcases hk with hk | rfl
        · exact h.annGids k hk
        · exact h.tableGids _ hjk
      · rw [hfk]; intro k hk hk2
        simp only [List.mem_append, List.mem_singleton] at hk
        rcases hk with hk | rfl
        · exact h.absent k hk (hkeys.subset hk2)
        · rw [hrem] at hk2
          simp only [keys, List.mem_map, List.mem_filter] at hk2
          obtain ⟨x, ⟨_, hx⟩, he⟩ := hk2
          have : x.id = j.id := by simpa using congrArg Prod.fst he
          simp [this] at hx
      · rw [hfk, List.nodup_append]
        refine ⟨h.once, by simp, ?_⟩
        intro a ha b hb
        simp only [List.mem_singleton] at hb
        subst hb
        intro e; subst e; exact hnew ha
    · simp only [hcond, Bool.false_eq_true, ↓reduceIte, List.append_nil]
      exact repOk_sub h (removePid_keys _ _ _) rfl

theorem killWord_ne (g : Int) : killWord g ≠ "Stopped" :=
  ite_ne (by simp) (ite_ne (by simp) (ite_ne (by simp) (ite_ne (by simp) (by simp))))

theorem repOk_waitEv {pids : List Pid} {s : Sh} {out : List Out} (h : RepOk pids s out) (w : Wait) (e : Ev) :
    RepOk pids (waitEv s w e).1 (out ++ (waitEv s w e).2.1) := by
  unfold waitEv
  cases e with
  | continued p =>
    dsimp only
    split <;> (simp only [List.append_nil]; exact repOk_congr h rfl rfl)
  | exited p c =>
    dsimp only
    split
    · exact repOk_done h _ _ _ (by simp)
    · simp only [List.append_nil]; exact repOk_congr h rfl rfl
  | killed p g =>
    dsimp only
    split
    · exact repOk_done h _ _ _ (by simp)
    · simp only [List.append_nil]; exact repOk_congr h rfl rfl
  | stopped p g =>
    dsimp only
    split
    · refine repOk_congr h (markMemberStopped_keys _ _ _) ?_
      rw [finKeys_append, finKeys_stopOut, List.append_nil]
    · simp only [List.append_nil]
      exact repOk_congr h (markMemberStopped_keys _ _ _) rfl

theorem repOk_applyOne {pids : List Pid} (out0 : List Out) (report : Bool) (job : Job) (acc : Sh × List Out) (pid : Pid)
    (h : RepOk pids acc.1 (out0 ++ acc.2)) :
    RepOk pids (applyOne report job acc pid).1 (out0 ++ (applyOne report job acc pid).2) := by
  unfold applyOne
  dsimp only
  split
  · rw [← List.append_assoc]
    exact repOk_done (s := { acc.1 with reap := acc.1.reap.filter (·.1 ≠ pid) }) (repOk_congr h rfl rfl) _ _ _ (by simp)
  · split
    · rename_i g _
      rw [← List.append_assoc]
      exact repOk_done (s := { acc.1 with kill := acc.1.kill.filter (·.1 ≠ pid) }) (repOk_congr h rfl rfl) _ _ _ (killWord_ne g)
    · split
      · refine repOk_congr h (markMemberStopped_keys _ _ _) ?_
        rw [← List.append_assoc, finKeys_append, finKeys_stopOut, List.append_nil]
      · split
        · exact repOk_congr h (markMemberContinued_keys _ _ _) rfl
        · exact h

theorem repOk_applyParkedR {pids : List Pid} (out0 : List Out) (report : Bool) (s : Sh) (h : RepOk pids s out0) :
    RepOk pids (applyParkedR report s).1 (out0 ++ (applyParkedR report s).2) := by
  rw [applyParkedR_eq]
  refine foldl_pres (fun (b : Sh × List Out) => RepOk pids b.1 (out0 ++ b.2)) _ ?_ s.jobs (s, []) (by simpa using h)
  intro b job hb
  exact foldl_pres (fun (b : Sh × List Out) => RepOk pids b.1 (out0 ++ b.2)) _ (repOk_applyOne out0 report job) job.pids b hb

theorem repOk_pollR {pids : List Pid} (report : Bool) (s : State) (h : RepOk pids s.sh s.out) :
    RepOk pids (pollR report s).sh (pollR report s).out := by
  unfold pollR
  split
  · exact h
  · exact repOk_applyParkedR s.out report _ (repOk_congr h (keys_of_jobs_eq (park_jobs _)) rfl)

theorem pollR_pids (report : Bool) (s : State) : (pollR report s).procs.map (·.pid) = s.procs.map (·.pid) := by
  unfold pollR
  split
  · rfl
  · simp [consume, Function.comp_def]

theorem pollR_mode (report : Bool) (s : State) : (pollR report s).mode = s.mode := by
  unfold pollR; split <;> rfl

def pidsOf (s : State) : List Pid := s.procs.map (·.pid)

structure RepInv (s : State) : Prop where
  ok : RepOk (pidsOf s) s.sh s.out
  /-- `fork` returns neither 0 (the `pgid` a `Launch` starts with) nor the shell's own pid -/
  fresh : ∀ p ∈ pidsOf s, p ≠ 0 ∧ p ≠ s.shell
  /-- the group id of a launch in progress is a pid once the first child exists … -/
  pgidPid : ∀ l, s.mode = .launching l → (l.idx > 0 ∨ l.phase ≠ .fork) → l.pgid ∈ pidsOf s
  /-- … and was never announced -/
  pgidNew : ∀ l, s.mode = .launching l → ∀ k ∈ finKeys s.out, k.2 ≠ l.pgid

theorem updProc_pids (procs : List Proc) (pid : Pid) (f : Proc → Proc) (hf : ∀ q, (f q).pid = q.pid) :
    (updProc procs pid f).map (·.pid) = procs.map (·.pid) := by
  rw [updProc_eq, List.map_map]
  apply List.map_congr_left
  intro q _
  simp only [Function.comp]
  split
  · exact hf q
  · rfl

theorem sigGroup_pids (procs : List Proc) (g : Pid) (sg : Sig) : (sigGroup procs g sg).map (·.pid) = procs.map (·.pid) := by
  rw [sigGroup_eq, List.map_map]
  apply List.map_congr_left
  intro q _
  simp only [Function.comp]
  split
  · exact ((sigProc_benign sg).1 q).1
  · rfl

theorem repInv_same {s s' : State} (h : RepInv s) (hsh : s'.sh = s.sh) (ho : finKeys s'.out = finKeys s.out)
    (hp : pidsOf s' = pidsOf s) (hs : s'.shell = s.shell) (hm : s'.mode = s.mode) : RepInv s' := by
  refine ⟨?_, ?_, ?_, ?_⟩
  · rw [hp, hsh]; exact repOk_congr h.ok rfl ho
  · rw [hp, hs]; exact h.fresh
  · rw [hp, hm]; exact h.pgidPid
  · rw [hm, ho]; exact h.pgidNew

theorem repInv_out {s s' : State} (h : RepInv s) (hok : RepOk (pidsOf s) s'.sh s'.out) (hp : pidsOf s' = pidsOf s)
    (hs : s'.shell = s.shell) (hm : ∀ l, s'.mode ≠ .launching l) : RepInv s' := by
  refine ⟨by rw [hp]; exact hok, by rw [hp, hs]; exact h.fresh, ?_, ?_⟩
  · intro l hl; exact absurd hl (hm l)
  · intro l hl; exact absurd hl (hm l)

theorem repInv_launch {s st : State} {l l' : Launch} (h : RepInv s) (hm : s.mode = .launching l) (hpg : l.pgid ∈ pidsOf s)
    (hok : RepOk (pidsOf s) st.sh st.out) (ho : st.out = s.out) (hp : pidsOf st = pidsOf s) (hs : st.shell = s.shell)
    (hm' : st.mode = .launching l') (hg : l'.pgid = l.pgid) : RepInv st := by
  refine ⟨by rw [hp]; exact hok, by rw [hp, hs]; exact h.fresh, ?_, ?_⟩
  · intro l'' hl'' _
    rw [hm'] at hl''; cases hl''
    rw [hp, hg]; exact hpg
  · intro l'' hl'' k hk
    rw [hm'] at hl''; cases hl''
    rw [ho] at hk; rw [hg]; exact h.pgidNew l hm k hk

theorem finKeys_append_nonfinal (out : List Out) (o : List Out) (ho : ∀ x ∈ o, finKey x = none) : finKeys (out ++ o) = finKeys out := by
  rw [finKeys_append]
  have : finKeys o = [] := by
    unfold finKeys
    induction o with
    | nil => rfl
    | cons x xs ih =>
      simp only [List.filterMap_cons, ho x (by simp)]
      exact ih (fun y hy => ho y (by simp [hy]))
  rw [this, List.append_nil]

theorem finKeys_append_msg (out : List Out) (m : String) : finKeys (out ++ [.msg m]) = finKeys out :=
  finKeys_append_nonfinal _ _ (by simp [finKey])

theorem listing_nonfinal (s : Sh) : ∀ x ∈ listing s, finKey x = none := by
  intro x hx
  simp only [listing, List.mem_map] at hx
  obtain ⟨j, _, rfl⟩ := hx
  rfl

theorem repInv_step {c : Cfg} {s s' : State} {a : Act} (h : RepInv s) (hs : Step c s a s') : RepInv s' := by
  cases hs with
  | launch =>
    refine ⟨h.ok, h.fresh, ?_, ?_⟩
    · intro l hl hor
      simp only [Mode.launching.injEq] at hl; subst hl
      simp at hor
    · intro l hl k hk
      simp only [Mode.launching.injEq] at hl; subst hl
      -- the new launch has `pgid = 0`, the announced group ids are pids of children
      exact (h.fresh _ (h.ok.annGids k hk)).1
  | fgMsg | bgMsg =>
    exact repInv_out h (repOk_congr h.ok rfl (finKeys_append_msg _ _)) rfl rfl (by simp)
  | fgNoTty | jobsNone | empty | launchedNone | launchedWait | waitEchild | handbackLaunch | handbackFg =>
    exact repInv_out h h.ok rfl rfl (by simp)
  | fgDone | fgWait =>
    exact repInv_out h (repOk_congr h.ok (markRunning_keys _ _ _) rfl) (sigGroup_pids _ _ _) rfl (by simp)
  | bgRunning =>
    exact repInv_out h (repOk_congr h.ok rfl (finKeys_append_msg _ _)) (sigGroup_pids _ _ _) rfl (by simp)
  | bgResumed =>
    exact repInv_out h (repOk_congr h.ok (markRunning_keys _ _ _) (finKeys_append_msg _ _))
      (sigGroup_pids _ _ _) rfl (by simp)
  | jobsList =>
    refine repInv_out h ?_ (pollR_pids false s) (pollR_shell _ s) (by simp)
    exact repOk_congr (repOk_pollR false s h.ok) rfl (finKeys_append_nonfinal _ _ (listing_nonfinal _))
  | poll => exact repInv_out h (repOk_pollR true s h.ok) (pollR_pids true s) (pollR_shell _ s) (by simp)
  | @fork pid l hm _ hz hsh hnew =>
    have hnew' : pid ∉ pidsOf s := by
      intro hin
      simp only [pidsOf, List.mem_map] at hin
      obtain ⟨q, hq, he⟩ := hin
      exact hnew q hq he
    have hpids : ∀ x, x ∈ pidsOf s → x ∈ (s.procs ++ [({ pid := pid, first := if l.idx = 0 then pid else l.pgid, pgid := s.shell } : Proc)]).map (·.pid) := by
      intro x hx; simp only [List.map_append, List.mem_append]; exact Or.inl hx
    refine ⟨repOk_mono h.ok hpids, ?_, ?_, ?_⟩
    · intro p hp
      simp only [pidsOf, List.map_append, List.mem_append, List.map_cons, List.map_nil, List.mem_singleton] at hp
      rcases hp with hp | rfl
      · exact h.fresh p hp
      · exact ⟨hz, hsh⟩
    · intro l' hl' _
      simp only [Mode.launching.injEq] at hl'; subst hl'
      simp only [pidsOf, List.map_append, List.mem_append, List.map_cons, List.map_nil, List.mem_singleton]
      by_cases h0 : l.idx = 0
      · right; simp [h0]
      · left; simp only [h0, ↓reduceIte]; exact h.pgidPid l hm (Or.inl (by omega))
    · intro l' hl' k hk
      simp only [Mode.launching.injEq] at hl'; subst hl'
      dsimp only
      by_cases h0 : l.idx = 0
      · simp only [h0, ↓reduceIte]
        intro e
        exact hnew' (e ▸ h.ok.annGids k hk)
      · simp only [h0, ↓reduceIte]; exact h.pgidNew l hm k hk
  | pset l p hm hph =>
    exact repInv_launch h hm (h.pgidPid l hm (Or.inr (by rw [hph]; simp))) h.ok rfl
      (updProc_pids _ _ _ (by intro q; split <;> rfl)) rfl rfl rfl
  | giveOk l p hm hph | giveFail l p hm hph | giveSkip l p hm hph =>
    exact repInv_launch h hm (h.pgidPid l hm (Or.inr (by rw [hph]; simp))) h.ok rfl rfl rfl rfl rfl
  | insert l p cmd rest hm hph =>
    have hpg := h.pgidPid l hm (Or.inr (by rw [hph]; simp))
    refine repInv_launch h hm hpg ?_ rfl rfl rfl rfl rfl
    dsimp only
    split
    · refine ⟨?_, h.ok.annGids, ?_, h.ok.once⟩
      · intro k hk
        rcases insertJob_keys _ _ _ _ k hk with he | hk0
        · rw [he]; exact hpg
        · exact h.ok.tableGids k hk0
      · intro k hk hk2
        rcases insertJob_keys _ _ _ _ k hk2 with he | hk0
        · exact h.pgidNew l hm k hk he
        · exact h.ok.absent k hk hk0
    · exact h.ok
  | launchedBg =>
    refine repInv_out h (repOk_congr h.ok rfl (finKeys_append_nonfinal _ _ ?_)) rfl rfl (by simp)
    intro x hx
    split at hx <;> simp at hx
    subst hx; rfl
  | csetpgid => exact repInv_same h rfl rfl (updProc_pids _ _ _ (by intro q; split <;> rfl)) rfl rfl
  | exit => exact repInv_same h rfl rfl (updProc_pids _ _ _ (by intro q; rfl)) rfl rfl
  | signal => exact repInv_same h rfl rfl (updProc_pids _ _ _ (fun q => ((sigProc_benign _).1 q).1)) rfl rfl
  | ctrlC | ctrlZ => exact repInv_same h rfl rfl (sigGroup_pids _ _ _) rfl rfl
  | waitGet w p e =>
    refine repInv_out h (repOk_waitEv h.ok w e) (updProc_pids _ _ _ (by intro q; rfl)) rfl ?_
    intro l; dsimp only; split <;> simp

theorem repInv_reachable {c : Cfg} {s : State} (h : Reachable c s) : RepInv s := by
  induction h with
  | init p _ =>
    refine ⟨⟨?_, ?_, ?_, ?_⟩, ?_, ?_, ?_⟩ <;> simp [init, pidsOf, keys, finKeys]
  | step a _ hs ih => exact repInv_step ih (step_sound hs)

/-- no job is filed under the shell's own process group, and neither will the launch in progress file one -/
def GidInv (s : State) : Prop :=
  (∀ j ∈ s.sh.jobs, j.gid ≠ s.shell) ∧
  (∀ l, s.mode = .launching l → (l.idx > 0 ∨ l.phase ≠ .fork) → l.pgid ≠ s.shell)

theorem gidInv_reachable {c : Cfg} {s : State} (h : Reachable c s) : GidInv s :=
  have r := repInv_reachable h
  ⟨fun j hj => (r.fresh _ (r.ok.tableGids (j.id, j.gid) (List.mem_map_of_mem hj))).2,
   fun l hl hor => (r.fresh _ (r.pgidPid l hl hor)).2⟩

end Cicada.Term
