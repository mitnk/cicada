import Cicada.Spec.C15
/-!
# The positional pass on one token (`expandArgsTok`)

The fuel of `expandArgsTokAux` is irrelevant once it exceeds the length of the text, hence fuel-free unfolding equations:
literal text is copied, a reference is replaced by its value and the scan goes on BEHIND it (the value is not looked at
again).  The gate `isArgsInToken` is exactly "`findArgRef` finds something", so it is transparent.

The segment type `Seg` of `Spec/C15.lean` (the vocabulary of the correspondence stream's oracle) has no `${@}` and asks literal
segments to be non-empty; `WSeg` adds the one and drops the other.  The `*_ofSeg` lemmas serve `C15_word_spec` only.
-/
namespace Cicada.C15
open Cicada

theorem noNl_cons (c : Char) (s : Str) : noNl (c :: s) = (decide (c ≠ '\n') && noNl s) := rfl

theorem noNl_append_iff (a b : Str) : noNl (a ++ b) = (noNl a && noNl b) := by
  simp only [noNl, List.all_append]

theorem digitsOk_iff (d : Str) : digitsOk d = true ↔ d ≠ [] ∧ d.all isDigitA = true := by
  simp [digitsOk]

theorem digit_ne_brace (c : Char) (h : isDigitA c = true) : c ≠ '{' := by intro e; subst e; revert h; decide
theorem digit_ne_at (c : Char) (h : isDigitA c = true) : c ≠ '@' := by intro e; subst e; revert h; decide

theorem noNl_digits (d : Str) (h : digitsOk d = true) : noNl d = true := by
  simp only [noNl, List.all_eq_true, decide_eq_true_eq]
  intro c hc e
  have := List.all_eq_true.mp ((digitsOk_iff d).mp h).2 c hc
  subst e; revert this; decide

theorem digits_split (d post : Str) (hd : d.all isDigitA = true) (hp : ∀ c, post.head? = some c → isDigitA c = false) :
    (d ++ post).takeWhile isDigitA = d ∧ (d ++ post).dropWhile isDigitA = post := by
  induction d with
  | nil =>
    cases post with
    | nil => simp
    | cons c cs => simp [hp c rfl]
  | cons c cs ih =>
    simp only [List.all_cons, Bool.and_eq_true] at hd
    have := ih hd.2
    simp [hd.1, this.1, this.2]

theorem findArgRef_skip (pre rest acc : Str) (h : ∀ c ∈ pre, c ≠ '$') :
    findArgRef acc (pre ++ rest) = findArgRef (acc ++ pre) rest := by
  induction pre generalizing acc with
  | nil => simp
  | cons c cs ih =>
    have hc := h c (by simp)
    simp only [List.cons_append, findArgRef, hc, ↓reduceIte]
    rw [ih _ (fun x hx => h x (by simp [hx]))]
    simp [List.append_assoc]

theorem findArgRef_none (s acc : Str) (h : ∀ c ∈ s, c ≠ '$') : findArgRef acc s = none := by
  rw [← List.append_nil s, findArgRef_skip s [] acc h]; rfl

theorem findArgRef_acc (s : Str) : ∀ (acc : Str),
    findArgRef acc s = (findArgRef [] s).map (fun x => (acc ++ x.1, x.2.1, x.2.2)) := by
  induction s with
  | nil => intro acc; rfl
  | cons c cs ih =>
    intro acc
    by_cases hc : c = '$'
    · subst hc
      cases href : argRefAt cs with
      | some p =>
        obtain ⟨k, r⟩ := p
        simp [findArgRef, href]
      | none =>
        simp only [findArgRef, href, ↓reduceIte, List.nil_append]
        rw [ih (acc ++ ['$']), ih ['$']]
        cases findArgRef [] cs <;> simp
    · simp only [findArgRef, hc, ↓reduceIte, List.nil_append]
      rw [ih (acc ++ [c]), ih [c]]
      cases findArgRef [] cs <;> simp

theorem dropBrace_length (r : Str) : (dropBrace r).length ≤ r.length := by
  unfold dropBrace; split <;> simp

theorem argKey_length (s k r : Str) (h : argKey s = some (k, r)) : r.length ≤ s.length := by
  unfold argKey at h
  split at h
  · simp at h; rw [← h.2]; simp
  · simp only at h
    split at h
    · simp at h
    · simp at h
      rw [← h.2]
      have : s.length = (s.takeWhile isDigitA).length + (s.dropWhile isDigitA).length := by
        rw [← List.length_append, List.takeWhile_append_dropWhile]
      omega

theorem argRefAt_brace (r : Str) : argRefAt ('{' :: r) = (argKey r).map (fun (k, r') => (k, dropBrace r')) := rfl

theorem argRefAt_of_ne (c : Char) (cs : Str) (h : c ≠ '{') :
    argRefAt (c :: cs) = (argKey (c :: cs)).map (fun (k, r') => (k, dropBrace r')) := by
  unfold argRefAt
  split
  · rename_i r heq; exact absurd (List.cons.inj heq).1 h
  · rfl

theorem argRefAt_length (cs k r : Str) (h : argRefAt cs = some (k, r)) : r.length ≤ cs.length := by
  have key : ∀ s, (argKey s).map (fun (k, r') => (k, dropBrace r')) = some (k, r) → r.length ≤ s.length := by
    intro s hs
    cases hk : argKey s with
    | none => simp [hk] at hs
    | some p =>
      simp only [hk, Option.map_some, Option.some.injEq, Prod.mk.injEq] at hs
      have := argKey_length s p.1 p.2 hk
      have := dropBrace_length p.2
      rw [← hs.2]; omega
  match cs, h with
  | [], h => simp [argRefAt, argKey] at h
  | c :: cs, h =>
    by_cases hc : c = '{'
    · subst hc
      have := key cs h
      simp only [List.length_cons]; omega
    · rw [argRefAt_of_ne c cs hc] at h
      exact key _ h

/-- the reference itself takes at least two characters -/
theorem findArgRef_length (s : Str) : ∀ (acc hd k tl : Str), findArgRef acc s = some (hd, k, tl) →
    hd.length + tl.length < acc.length + s.length := by
  induction s with
  | nil => intro acc hd k tl h; simp [findArgRef] at h
  | cons c cs ih =>
    intro acc hd k tl h
    unfold findArgRef at h
    split at h
    · split at h
      · rename_i k' r' heq
        simp at h
        have := argRefAt_length cs k' r' heq
        rw [← h.2.2, ← h.1]; simp; omega
      · have := ih _ _ _ _ h; simp at this ⊢; omega
    · have := ih _ _ _ _ h; simp at this ⊢; omega

theorem findArgRef_tail_lt (s hd k tl : Str) (h : findArgRef [] s = some (hd, k, tl)) : tl.length < s.length := by
  have := findArgRef_length s [] hd k tl h
  simp only [List.length_nil] at this; omega

theorem argKey_digits (d post : Str) (hne : d ≠ []) (hall : d.all isDigitA = true)
    (hp : ∀ c, post.head? = some c → isDigitA c = false) : argKey (d ++ post) = some (d, post) := by
  obtain ⟨h1, h2⟩ := digits_split d post hall hp
  obtain ⟨c0, cs0, rfl⟩ := List.exists_cons_of_ne_nil hne
  have hc0a : c0 ≠ '@' := digit_ne_at c0 (List.all_eq_true.mp hall c0 (by simp))
  unfold argKey
  split
  · rename_i r heq; exact absurd (List.cons.inj heq).1 hc0a
  · simp only [h1, h2]; simp

theorem dropBrace_id (post : Str) (h : ∀ c, post.head? = some c → c ≠ '}') : dropBrace post = post := by
  cases post with
  | nil => rfl
  | cons c cs =>
    unfold dropBrace
    split
    · rename_i r heq; exact absurd (List.cons.inj heq).1 (h c rfl)
    · rfl

theorem argRefAt_digits (d post : Str) (hd : digitsOk d = true) (hp : ∀ c, post.head? = some c → isDigitA c = false) :
    argRefAt (d ++ post) = some (d, dropBrace post) := by
  obtain ⟨hne, hall⟩ := (digitsOk_iff d).mp hd
  have hkey := argKey_digits d post hne hall hp
  obtain ⟨c0, cs0, rfl⟩ := List.exists_cons_of_ne_nil hne
  rw [List.cons_append] at hkey ⊢
  rw [argRefAt_of_ne c0 _ (digit_ne_brace c0 (List.all_eq_true.mp hall c0 (by simp))), hkey]; rfl

theorem brace_not_digit (post : Str) (c : Char) (h : ('}' :: post).head? = some c) : isDigitA c = false := by
  cases h; decide

theorem argRefAt_pos (d post : Str) (hd : digitsOk d = true)
    (hnext : ∀ c, post.head? = some c → isDigitA c = false ∧ c ≠ '}') : argRefAt (d ++ post) = some (d, post) := by
  rw [argRefAt_digits d post hd (fun c hc => (hnext c hc).1), dropBrace_id post (fun c hc => (hnext c hc).2)]

/-- `$N}`: the closing brace is swallowed although there was no opening one -/
theorem argRefAt_pos_brace (d post : Str) (hd : digitsOk d = true) : argRefAt (d ++ '}' :: post) = some (d, post) :=
  argRefAt_digits d _ hd (brace_not_digit post)

theorem argRefAt_bpos (d post : Str) (hd : digitsOk d = true) : argRefAt ('{' :: (d ++ '}' :: post)) = some (d, post) := by
  obtain ⟨hne, hall⟩ := (digitsOk_iff d).mp hd
  rw [argRefAt_brace, argKey_digits d _ hne hall (brace_not_digit post)]; rfl

theorem argRefAt_all (post : Str) (hnext : ∀ c, post.head? = some c → c ≠ '}') : argRefAt ('@' :: post) = some (['@'], post) := by
  rw [argRefAt_of_ne _ _ (by decide)]
  simp only [argKey, Option.map_some, dropBrace_id post hnext]

/-- `$@}`: the closing brace is swallowed -/
theorem argRefAt_all_brace (post : Str) : argRefAt ('@' :: '}' :: post) = some (['@'], post) := by
  rw [argRefAt_of_ne _ _ (by decide)]; rfl

theorem argRefAt_ball (post : Str) : argRefAt ('{' :: '@' :: '}' :: post) = some (['@'], post) := rfl

theorem argKey_nil : argKey [] = none := by simp [argKey]

theorem argKey_isSome_cons (c : Char) (cs : Str) : (argKey (c :: cs)).isSome = isArgKeyChar c := by
  by_cases hc : c = '@'
  · subst hc; rfl
  · unfold argKey
    split
    · rename_i r heq; exact absurd (List.cons.inj heq).1 hc
    · by_cases hd : isDigitA c = true <;> simp [List.takeWhile, hd, isArgKeyChar, hc]

theorem isArgsInToken_cons (c : Char) (cs : Str) :
    isArgsInToken (c :: cs) = ((c = '$' && (argRefAt cs).isSome) || isArgsInToken cs) := by
  conv => lhs; unfold isArgsInToken
  congr 2
  match cs with
  | [] => rfl
  | d :: ds =>
    by_cases hd : d = '{'
    · subst hd
      rw [argRefAt_brace, Option.isSome_map]
      cases ds with
      | nil => rfl
      | cons x xs => rw [argKey_isSome_cons]; rfl
    · rw [argRefAt_of_ne d ds hd, Option.isSome_map, argKey_isSome_cons]
      simp [hd]

theorem isArgsInToken_eq_findArgRef (t : Str) : ∀ acc, isArgsInToken t = (findArgRef acc t).isSome := by
  induction t with
  | nil => intro acc; rfl
  | cons c cs ih =>
    intro acc
    rw [isArgsInToken_cons]
    by_cases hc : c = '$'
    · subst hc
      cases href : argRefAt cs with
      | some p =>
        obtain ⟨k, r⟩ := p
        simp [findArgRef, href]
      | none =>
        simp only [findArgRef, ↓reduceIte, href, decide_true, Option.isSome_none, Bool.and_false, Bool.false_or]
        exact ih _
    · simp only [findArgRef, hc, ↓reduceIte, decide_false, Bool.false_and, Bool.false_or]
      exact ih _

/-- `n` is only the measure of the induction -/
theorem expandArgsTokAux_fuel (args : List Str) : ∀ (n : Nat) (s : Str) (f g : Nat), s.length ≤ n → s.length < f → s.length < g →
    expandArgsTokAux args f s = expandArgsTokAux args g s := by
  intro n
  induction n with
  | zero =>
    intro s f g hn hf hg
    have : s = [] := by cases s <;> simp_all
    subst this
    cases f <;> cases g <;> simp_all [expandArgsTokAux, findArgRef]
  | succ n ih =>
    intro s f g hn hf hg
    cases f with
    | zero => simp at hf
    | succ f =>
      cases g with
      | zero => simp at hg
      | succ g =>
        simp only [expandArgsTokAux]
        split
        · rfl
        · split
          · rfl
          · rename_i hd k tl heq
            have := findArgRef_tail_lt s hd k tl heq
            rw [ih tl f g (by omega) (by omega) (by omega)]

theorem expandArgsTok_fuel (args : List Str) (s : Str) (f : Nat) (hf : s.length < f) :
    expandArgsTokAux args f s = expandArgsTok args s :=
  expandArgsTokAux_fuel args s.length s f (s.length + 1) (Nat.le_refl _) hf (Nat.lt_succ_self _)

theorem expandArgsTok_nil (args : List Str) : expandArgsTok args [] = [] := by
  simp [expandArgsTok, expandArgsTokAux, findArgRef]

theorem expandArgsTok_noref (args : List Str) (t : Str) (h : findArgRef [] t = none) : expandArgsTok args t = t := by
  simp only [expandArgsTok, expandArgsTokAux, h]
  split <;> rfl

/-- the pattern's `.` does not match a newline -/
theorem expandArgsTok_nl (args : List Str) (t : Str) (h : noNl t = false) : expandArgsTok args t = t := by
  simp [expandArgsTok, expandArgsTokAux, h]

theorem expandArgsTok_step (args : List Str) (t hd k tl : Str) (hn : noNl t = true) (h : findArgRef [] t = some (hd, k, tl)) :
    expandArgsTok args t = hd ++ argValue args k ++ expandArgsTok args tl := by
  have hlen := findArgRef_tail_lt t hd k tl h
  have e : expandArgsTok args t =
      hd ++ argValue args k ++ (if tl = [] then [] else expandArgsTokAux args t.length tl) := by
    simp only [expandArgsTok, expandArgsTokAux, hn, h, Bool.not_true, Bool.false_eq_true, ↓reduceIte]
  rw [e]
  by_cases htl : tl = []
  · subst htl; simp [expandArgsTok_nil]
  · simp only [htl, ↓reduceIte]
    rw [expandArgsTok_fuel args tl t.length hlen]

/-- the inserted value is not scanned: the scan goes on in `r`, the text behind the reference -/
theorem expandArgsTok_ref (args : List Str) (cs k r : Str) (hn : noNl ('$' :: cs) = true) (h : argRefAt cs = some (k, r)) :
    expandArgsTok args ('$' :: cs) = argValue args k ++ expandArgsTok args r := by
  have hf : findArgRef [] ('$' :: cs) = some ([], k, r) := by simp [findArgRef, h]
  rw [expandArgsTok_step args _ _ _ _ hn hf]; simp

theorem expandArgsTok_lits (args : List Str) (s rest : Str) (hs : ∀ c ∈ s, c ≠ '$') (hn : noNl (s ++ rest) = true) :
    expandArgsTok args (s ++ rest) = s ++ expandArgsTok args rest := by
  have hnr : noNl rest = true := by
    rw [noNl_append_iff, Bool.and_eq_true] at hn; exact hn.2
  have hf : findArgRef [] (s ++ rest) = (findArgRef [] rest).map (fun x => (s ++ x.1, x.2.1, x.2.2)) := by
    rw [findArgRef_skip s rest [] hs, List.nil_append, findArgRef_acc]
  cases hr : findArgRef [] rest with
  | none =>
    rw [hr] at hf
    rw [expandArgsTok_noref args _ hf, expandArgsTok_noref args _ hr]
  | some p =>
    rw [hr] at hf
    rw [expandArgsTok_step args _ _ _ _ hn hf, expandArgsTok_step args _ _ _ _ hnr hr]
    simp only [List.append_assoc]

theorem expandArgsTok_gate_false (args : List Str) (t : Str) (h : isArgsInToken t = false) : expandArgsTok args t = t := by
  apply expandArgsTok_noref
  have := isArgsInToken_eq_findArgRef t []
  rw [h] at this
  cases hf : findArgRef [] t with
  | none => rfl
  | some p => rw [hf] at this; simp at this

/-- is the token single- or back-quoted (these are never expanded) -/
def hardQuoted (sep : Str) : Bool := sep = ['`'] || sep = ['\'']

theorem hardQuoted_iff (sep : Str) : hardQuoted sep = true ↔ sep = ['`'] ∨ sep = ['\''] := by
  simp [hardQuoted]

theorem expandArgsInTokens_eq_map (args : List Str) (ts : List Tok) :
    expandArgsInTokens args ts =
      ts.map (fun tok => if hardQuoted tok.1 then tok else (tok.1, expandArgsTok args tok.2)) := by
  unfold expandArgsInTokens
  apply List.map_congr_left
  intro tok _
  obtain ⟨sep, text⟩ := tok
  simp only [hardQuoted_iff]
  by_cases h1 : sep = ['`']
  · simp [h1]
  · by_cases h2 : sep = ['\'']
    · simp [h2]
    · cases hg : isArgsInToken text with
      | true => simp [h1, h2]
      | false => simp [h1, h2, expandArgsTok_gate_false args text hg]

/-! ### segments, with `${@}` -/

inductive WSeg
  | lit (s : Str)
  | pos (digits : Str)      -- `$n`
  | bpos (digits : Str)     -- `${n}`
  | all                     -- `$@`
  | ball                    -- `${@}`
  deriving Repr, DecidableEq

def WSeg.render : WSeg → Str
  | .lit s => s
  | .pos d => '$' :: d
  | .bpos d => '$' :: '{' :: (d ++ ['}'])
  | .all => ['$', '@']
  | .ball => ['$', '{', '@', '}']

def wrender (w : List WSeg) : Str := (w.map WSeg.render).flatten

/-- what a segment stands for: the n-th argument (nothing if there is none), the arguments from the first on
joined by blanks, or the literal text itself -/
def WSeg.value (args : List Str) : WSeg → Str
  | .lit s => s
  | .pos d => argValue args d
  | .bpos d => argValue args d
  | .all => joinWith [' '] (args.drop 1)
  | .ball => joinWith [' '] (args.drop 1)

def wspecArgs (args : List Str) (w : List WSeg) : Str := (w.map (WSeg.value args)).flatten

theorem wrender_cons (s : WSeg) (ss : List WSeg) : wrender (s :: ss) = s.render ++ wrender ss := rfl

theorem wspecArgs_cons (args : List Str) (s : WSeg) (ss : List WSeg) :
    wspecArgs args (s :: ss) = s.value args ++ wspecArgs args ss := rfl

/-- literal text: free of `$` and of newlines (may be empty) -/
def wlitOk (s : Str) : Bool := s.all (fun c => c ≠ '$' && c ≠ '\n')

/-- The guard, given the rendered text that follows the segment.  Only the unbraced spellings are restricted:
`$n` must not be followed by a digit (it would be read as part of the number) and neither `$n` nor `$@` by `}`
(the code's pattern `\}?` swallows it, see `C15_pos_swallows_brace`).  `${n}` and `${@}` may be followed by anything. -/
def wsegOk (after : Str) : WSeg → Bool
  | .lit s => wlitOk s
  | .pos d => digitsOk d && (match after.head? with
      | some c => !isDigitA c && c ≠ '}'
      | none => true)
  | .bpos d => digitsOk d
  | .all => (match after.head? with
      | some c => c ≠ '}'
      | none => true)
  | .ball => true

def wwordOk : List WSeg → Bool
  | [] => true
  | s :: rest => wsegOk (wrender rest) s && wwordOk rest

def WSeg.ofSeg : Seg → WSeg
  | .lit s => .lit s
  | .pos d => .pos d
  | .bpos d => .bpos d
  | .all => .all

theorem wrender_ofSeg (w : List Seg) : wrender (w.map WSeg.ofSeg) = render w := by
  rw [wrender, render, List.map_map]
  congr 2
  funext s
  cases s <;> rfl

theorem wspecArgs_ofSeg (args : List Str) (w : List Seg) : wspecArgs args (w.map WSeg.ofSeg) = specArgs args w := by
  rw [wspecArgs, specArgs, List.map_map]
  congr 2
  funext s
  cases s <;> rfl

theorem wsegOk_ofSeg (after : Str) (s : Seg) (h : segOk after s = true) : wsegOk after (.ofSeg s) = true := by
  cases s with
  | lit t =>
    simp only [segOk, litOk, Bool.and_eq_true] at h
    exact h.2
  | pos d => exact h
  | bpos d => exact h
  | all => exact h

theorem wwordOk_ofSeg (w : List Seg) (h : wordOk w = true) : wwordOk (w.map WSeg.ofSeg) = true := by
  induction w with
  | nil => rfl
  | cons s ss ih =>
    simp only [wordOk, Bool.and_eq_true] at h
    simp only [List.map_cons, wwordOk, Bool.and_eq_true, wrender_ofSeg]
    exact ⟨wsegOk_ofSeg _ s h.1, ih h.2⟩

end Cicada.C15
