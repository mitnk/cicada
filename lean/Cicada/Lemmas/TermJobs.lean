import Cicada.Lemmas.Term
/-!
# What the job-table operations do to the set of jobs

`keys` = the (id, group id) pairs of the table, in table order.  Every operation except `insert_job` leaves
them alone or removes some; `insert_job` adds at most one pair, with the group id it was given.  `applyOne` names the
inner function of `applyParkedR` (one pid of one job), so that lemmas can speak of it.
-/
namespace Cicada.Term
open Cicada.Jobs Cicada.C07

theorem keys_of_jobs_eq {s s' : Sh} (h : s'.jobs = s.jobs) : keys s' = keys s := by simp [keys, h]

theorem updJob_keys (s : Sh) (i : Nat) (f : Job → Job) (hf : ∀ j, (f j).id = j.id ∧ (f j).gid = j.gid) : keys (updJob s i f) = keys s := by
  simp only [keys, updJob, List.map_map]
  apply List.map_congr_left
  intro j _
  simp only [Function.comp]
  split <;> simp [hf j]

theorem removePid_keys (s : Sh) (gid pid : Pid) : (keys (removePid s gid pid)).Sublist (keys s) := by
  unfold removePid
  split
  · exact List.Sublist.refl _
  · dsimp only
    split
    · exact List.Sublist.map _ List.filter_sublist
    · rw [updJob_keys]
      · exact List.Sublist.refl _
      · intro j; exact ⟨rfl, rfl⟩

theorem markMemberStopped_keys (s : Sh) (pid gid : Pid) : keys (markMemberStopped s pid gid) = keys s := by
  unfold markMemberStopped
  split
  · rfl
  · dsimp only
    repeat' split
    all_goals (repeat rw [updJob_keys])
    all_goals (intro j; exact ⟨rfl, rfl⟩)

theorem markMemberContinued_keys (s : Sh) (pid gid : Pid) : keys (markMemberContinued s pid gid) = keys s := by
  unfold markMemberContinued
  split
  · rfl
  · dsimp only
    repeat' split
    all_goals (repeat rw [updJob_keys])
    all_goals (intro j; exact ⟨rfl, rfl⟩)

theorem markRunning_keys (s : Sh) (gid : Pid) (bg : Bool) : keys (markRunning s gid bg) = keys s := by
  unfold markRunning
  split
  · rw [updJob_keys]; intro j; exact ⟨rfl, rfl⟩
  · rfl

theorem park_jobs (s : Sh) : (park s).jobs = s.jobs := by
  unfold park
  have : ∀ (evs : List Ev) (t : Sh), (evs.foldl (fun s e => match e with
      | .exited p c => { s with reap := putMap s.reap p c }
      | .killed p g => { s with kill := putMap s.kill p g }
      | .stopped p _ => { s with stop := addOnce s.stop p }
      | .continued p => { s with cont := addOnce s.cont p }) t).jobs = t.jobs := by
    intro evs
    induction evs with
    | nil => intro t; rfl
    | cons e rest ih =>
      intro t
      simp only [List.foldl_cons]
      rw [ih]
      cases e <;> rfl
  exact this _ _

/-- one pid of one job in `try_wait_bg_jobs`: the inner function of `applyParkedR` -/
def applyOne (report : Bool) (job : Job) (acc : Sh × List Out) (pid : Pid) : Sh × List Out :=
  let s := acc.1
  if s.reap.any (·.1 = pid) then
    let s1 := { s with reap := s.reap.filter (·.1 ≠ pid) }
    (removePid s1 job.gid pid, acc.2 ++ doneOut s1 job.gid pid "Done")
  else match s.kill.find? (·.1 = pid) with
  | some (_, g) =>
    let s1 := { s with kill := s.kill.filter (·.1 ≠ pid) }
    (removePid s1 job.gid pid, acc.2 ++ doneOut s1 job.gid pid (killWord g))
  | none =>
    if s.stop.contains pid then
      let s1 := { s with stop := s.stop.erase pid }
      (markMemberStopped s1 pid job.gid, acc.2 ++ stopOut s1 pid job.gid report)
    else if s.cont.contains pid then (markMemberContinued { s with cont := s.cont.erase pid } pid job.gid, acc.2)
    else acc

theorem applyParkedR_eq (report : Bool) (s : Sh) :
    applyParkedR report s = s.jobs.foldl (fun acc job => job.pids.foldl (applyOne report job) acc) (s, []) := rfl

theorem mem_insertSorted (j x : Job) (l : List Job) : x ∈ insertSorted j l ↔ x = j ∨ x ∈ l := by
  induction l with
  | nil => simp [insertSorted]
  | cons y ys ih =>
    simp only [insertSorted]
    split
    · simp
    · simp only [List.mem_cons, ih]
      constructor
      · rintro (h | h | h)
        · exact Or.inr (Or.inl h)
        · exact Or.inl h
        · exact Or.inr (Or.inr h)
      · rintro (h | h | h)
        · exact Or.inr (Or.inl h)
        · exact Or.inl h
        · exact Or.inr (Or.inr h)

/-- `insert_job` adds at most one (id, group id) pair, with the group id it was given -/
theorem insertJobGo_keys (s : Sh) (gid pid : Pid) (bg : Bool) : ∀ (f i : Nat) (k : Nat × Pid), k ∈ keys (insertJobGo s gid pid bg f i) →
    k.2 = gid ∨ k ∈ keys s := by
  intro f
  induction f with
  | zero => intro i k hk; exact Or.inr hk
  | succ f ih =>
    intro i k hk
    simp only [insertJobGo] at hk
    split at hk
    · split at hk
      · right
        simp only [keys, List.map_map, List.mem_map, Function.comp] at hk ⊢
        obtain ⟨j0, hj0, he⟩ := hk
        refine ⟨j0, hj0, ?_⟩
        rw [← he]
        split <;> rfl
      · exact ih (i + 1) k hk
    · simp only [keys, List.mem_map, mem_insertSorted] at hk
      obtain ⟨j, hj, he⟩ := hk
      rcases hj with rfl | hj
      · left; rw [← he]
      · right; simp only [keys, List.mem_map]; exact ⟨j, hj, he⟩

theorem insertJob_keys (s : Sh) (gid pid : Pid) (bg : Bool) (k : Nat × Pid) (hk : k ∈ keys (insertJob s gid pid bg)) :
    k.2 = gid ∨ k ∈ keys s := insertJobGo_keys s gid pid bg _ 1 k hk

end Cicada.Term
