import Cicada.Model.ScriptSess
/-!
# Lemmas on the script-session model (`Model/ScriptSess.lean`)

`runStmts` is read through `step` (what ONE statement does) and `stopped` (the test that ends a run), `runFile` through
`hoist` and `nondefs`.  A call, a `source` and a file hand back the state of the run they start with at most the `set -e`
flag changed, so whatever does not look at the flag is read off the run itself.  The induction over the fuel of the mutual
pair is done once (`run_induction`).
-/
namespace Cicada.C15.Sess
open Cicada.ScriptSess

/-- the `let (st1, status) := match s with …` of `runStmts`, copied out so that `runStmts_cons` can be stated; `f` is the
fuel left for the run a call or `source` starts -/
def step (cfg : Cfg) (files : List (Str × List SStmt)) (f : Nat) (s : SStmt) (st : St) (last : Nat) : St × Nat :=
  match s with
  | .stage k c => ({ st with trace := st.trace ++ [(k, c)] }, c)
  | .sete => ({ st with sete := true }, 0)
  | .exit n => ({ st with exited := some n }, n)
  | .defn _ _ => (st, last)
  | .call fn =>
    (match st.funcs.find? (·.1 = fn) with
     | some (_, body) =>
       let r := runStmts cfg files f body st 0
       (if cfg.clearAfterCall then { r.1 with sete := false } else r.1, r.2)
     | none => (st, 127))
  | .source file =>
    let r := runFile cfg files f file st
    (if cfg.clearAfterSource then { r.1 with sete := st.sete } else r.1, r.2)

/-- the run stops after this result: the shell has exited, or `set -e` is in effect and the status is a failure -/
def stopped (r : St × Nat) : Bool := r.1.exited.isSome || (r.2 != 0 && r.1.sete)

theorem runStmts_zero (cfg : Cfg) (files : List (Str × List SStmt)) (l : List SStmt) (st : St) (last : Nat) :
    runStmts cfg files 0 l st last = (st, last) := by
  simp [runStmts]

theorem runStmts_nil (cfg : Cfg) (files : List (Str × List SStmt)) (f : Nat) (st : St) (last : Nat) :
    runStmts cfg files f [] st last = (st, last) := by
  cases f <;> simp [runStmts]

theorem ite_stopped (r x : St × Nat) :
    (if r.1.exited.isSome = true then r else if r.2 ≠ 0 ∧ r.1.sete = true then r else x) = if stopped r = true then r else x := by
  unfold stopped
  cases r.1.exited.isSome <;> cases r.1.sete <;> by_cases h : r.2 = 0 <;> simp [h]

theorem runStmts_cons (cfg : Cfg) (files : List (Str × List SStmt)) (f : Nat) (s : SStmt) (rest : List SStmt) (st : St) (last : Nat) :
    runStmts cfg files (f + 1) (s :: rest) st last =
      if st.exited.isSome then (st, last) else
      if stopped (step cfg files f s st last) then step cfg files f s st last
      else runStmts cfg files f rest (step cfg files f s st last).1 (step cfg files f s st last).2 := by
  simp only [runStmts]
  congr 1
  exact ite_stopped (step cfg files f s st last) _

/-- the function table after the definitions of a file have been registered (`run_script` registers them before it runs a line) -/
def hoist (fs : List (Str × List SStmt)) (stmts : List SStmt) : List (Str × List SStmt) :=
  stmts.foldl (fun fs s => match s with | .defn fn b => setFunc fs fn b | _ => fs) fs

/-- the lines of a file that are run: everything but the definitions -/
def nondefs (stmts : List SStmt) : List SStmt := stmts.filter (fun s => !isDefn s)

theorem runFile_zero (cfg : Cfg) (files : List (Str × List SStmt)) (name : Str) (st : St) :
    runFile cfg files 0 name st = (st, 1) := by
  simp [runFile]

theorem runFile_succ (cfg : Cfg) (files : List (Str × List SStmt)) (f : Nat) (name : Str) (st : St) :
    runFile cfg files (f + 1) name st =
      match files.find? (·.1 = name) with
      | none => (st, 1)
      | some (_, stmts) =>
        ((if cfg.clearAfterSource then { (runStmts cfg files f (nondefs stmts) { st with funcs := hoist st.funcs stmts } 0).1 with sete := false }
          else (runStmts cfg files f (nondefs stmts) { st with funcs := hoist st.funcs stmts } 0).1),
         (runStmts cfg files f (nondefs stmts) { st with funcs := hoist st.funcs stmts } 0).2) := by
  simp only [runFile, hoist, nondefs]
  generalize List.find? (fun x => decide (x.fst = name)) files = o
  cases o with
  | none => rfl
  | some p => rfl

theorem hoist_cons (fs : List (Str × List SStmt)) (s : SStmt) (l : List SStmt) :
    hoist fs (s :: l) = hoist (match s with | .defn fn b => setFunc fs fn b | _ => fs) l := rfl

/-- the body a name is bound to -/
def bodyOf (st : St) (fn : Str) : Option (List SStmt) := (st.funcs.find? (·.1 = fn)).map (·.2)

theorem bodyOf_sete (st : St) (x : Bool) (fn : Str) : bodyOf { st with sete := x } fn = bodyOf st fn := rfl

theorem ite_sete (c b : Bool) (r : St) : ∃ b', (if c = true then { r with sete := b } else r) = { r with sete := b' } := by
  cases c
  · exact ⟨r.sete, rfl⟩
  · exact ⟨b, rfl⟩

theorem step_call (cfg : Cfg) (files : List (Str × List SStmt)) (F : Nat) (fn : Str) (body : List SStmt) (st : St) (last : Nat)
    (h : bodyOf st fn = some body) :
    step cfg files F (.call fn) st last =
      (if cfg.clearAfterCall then { (runStmts cfg files F body st 0).1 with sete := false } else (runStmts cfg files F body st 0).1,
       (runStmts cfg files F body st 0).2) := by
  simp only [bodyOf] at h
  cases hh : st.funcs.find? (·.1 = fn) with
  | none => rw [hh] at h; simp at h
  | some x =>
    rw [hh] at h
    simp only [Option.map_some, Option.some.injEq] at h
    simp only [step, hh, h]

theorem step_call_none (cfg : Cfg) (files : List (Str × List SStmt)) (F : Nat) (fn : Str) (st : St) (last : Nat)
    (h : bodyOf st fn = none) : step cfg files F (.call fn) st last = (st, 127) := by
  simp only [bodyOf, Option.map_eq_none_iff] at h
  simp only [step, h]

theorem step_call_sete (cfg : Cfg) (files : List (Str × List SStmt)) (F : Nat) (fn : Str) (body : List SStmt) (st : St) (last : Nat)
    (h : bodyOf st fn = some body) :
    ∃ b, step cfg files F (.call fn) st last = ({ (runStmts cfg files F body st 0).1 with sete := b }, (runStmts cfg files F body st 0).2) := by
  obtain ⟨b, hb⟩ := ite_sete cfg.clearAfterCall false (runStmts cfg files F body st 0).1
  exact ⟨b, by rw [step_call cfg files F fn body st last h, hb]⟩

theorem step_source_sete (cfg : Cfg) (files : List (Str × List SStmt)) (F : Nat) (name : Str) (st : St) (last : Nat) :
    ∃ b, step cfg files F (.source name) st last = ({ (runFile cfg files F name st).1 with sete := b }, (runFile cfg files F name st).2) := by
  obtain ⟨b, hb⟩ := ite_sete cfg.clearAfterSource st.sete (runFile cfg files F name st).1
  exact ⟨b, by simp only [step, hb]⟩

theorem bodyOf_step_source (cfg : Cfg) (files : List (Str × List SStmt)) (F : Nat) (name : Str) (st : St) (last : Nat) (fn : Str) :
    bodyOf (step cfg files F (.source name) st last).1 fn = bodyOf (runFile cfg files F name st).1 fn := by
  obtain ⟨x, e⟩ := step_source_sete cfg files F name st last
  rw [e]; rfl

theorem runFile_sete (cfg : Cfg) (files : List (Str × List SStmt)) (F : Nat) (name nm : Str) (stmts : List SStmt) (st : St)
    (hfile : files.find? (·.1 = name) = some (nm, stmts)) :
    ∃ b, runFile cfg files (F + 1) name st =
      ({ (runStmts cfg files F (nondefs stmts) { st with funcs := hoist st.funcs stmts } 0).1 with sete := b },
       (runStmts cfg files F (nondefs stmts) { st with funcs := hoist st.funcs stmts } 0).2) := by
  obtain ⟨b, hb⟩ := ite_sete cfg.clearAfterSource false (runStmts cfg files F (nondefs stmts) { st with funcs := hoist st.funcs stmts } 0).1
  exact ⟨b, by rw [runFile_succ, hfile]; simp only [hb]⟩

theorem bodyOf_runFile (cfg : Cfg) (files : List (Str × List SStmt)) (F : Nat) (name nm : Str) (stmts : List SStmt) (st : St) (fn : Str)
    (hfile : files.find? (·.1 = name) = some (nm, stmts)) :
    bodyOf (runFile cfg files (F + 1) name st).1 fn =
      bodyOf (runStmts cfg files F (nondefs stmts) { st with funcs := hoist st.funcs stmts } 0).1 fn := by
  obtain ⟨x, e⟩ := runFile_sete cfg files F name nm stmts st hfile
  rw [e]; rfl

theorem runFile_missing (cfg : Cfg) (files : List (Str × List SStmt)) (F : Nat) (name : Str) (st : St)
    (hfile : files.find? (·.1 = name) = none) : runFile cfg files F name st = (st, 1) := by
  cases F with
  | zero => exact runFile_zero ..
  | succ f => rw [runFile_succ, hfile]

/-- the induction over the fuel of `runStmts` / `runFile`, for a relation between the state a run starts in and its result -/
theorem run_induction (cfg : Cfg) (files : List (Str × List SStmt)) (R : St → St × Nat → Prop)
    (hnil : ∀ st last, R st (st, last))
    (hstage : ∀ st k c, R st ({ st with trace := st.trace ++ [(k, c)] }, c))
    (hsete : ∀ st, R st ({ st with sete := true }, 0))
    (hexit : ∀ st n, R st ({ st with exited := some n }, n))
    (hcont : ∀ st r r', R st r → stopped r = false → R r.1 r' → R st r')
    (hflag : ∀ st r b, R st r → R st ({ r.1 with sete := b }, r.2))
    (hhoist : ∀ st p r, p ∈ files → R { st with funcs := hoist st.funcs p.2 } r → R st r) :
    ∀ F, (∀ l st last, R st (runStmts cfg files F l st last)) ∧ (∀ name st, R st (runFile cfg files F name st)) := by
  intro F
  induction F with
  | zero => exact ⟨fun l st last => by rw [runStmts_zero]; exact hnil st last, fun name st => by rw [runFile_zero]; exact hnil st 1⟩
  | succ f ih =>
    have hstep : ∀ s st last, R st (step cfg files f s st last) := by
      intro s st last
      cases s with
      | stage k c => exact hstage st k c
      | sete => exact hsete st
      | exit n => exact hexit st n
      | defn g b => exact hnil st last
      | call fn =>
        cases hb : bodyOf st fn with
        | none => rw [step_call_none _ _ _ _ _ _ hb]; exact hnil st 127
        | some body =>
          obtain ⟨b, e⟩ := step_call_sete cfg files f fn body st last hb
          rw [e]; exact hflag st _ b (ih.1 body st 0)
      | source fl =>
        obtain ⟨b, e⟩ := step_source_sete cfg files f fl st last
        rw [e]; exact hflag st _ b (ih.2 fl st)
    refine ⟨fun l st last => ?_, fun name st => ?_⟩
    · cases l with
      | nil => rw [runStmts_nil]; exact hnil st last
      | cons s rest =>
        rw [runStmts_cons]
        split
        · exact hnil st last
        · split
          · exact hstep s st last
          · rename_i hs
            exact hcont st _ _ (hstep s st last) (Bool.eq_false_iff.mpr hs) (ih.1 rest _ _)
    · cases hfind : files.find? (·.1 = name) with
      | none => rw [runFile_missing _ _ _ _ _ hfind]; exact hnil st 1
      | some p =>
        obtain ⟨b, e⟩ := runFile_sete cfg files f name p.1 p.2 st hfind
        rw [e]
        exact hhoist st p _ (List.mem_of_find?_eq_some hfind) (hflag _ _ b (ih.1 (nondefs p.2) _ 0))

theorem bodyOf_setFunc (st : St) (g fn : Str) (b : List SStmt) :
    bodyOf { st with funcs := setFunc st.funcs g b } fn = if g = fn then some b else bodyOf st fn := by
  simp only [bodyOf, setFunc, List.find?_append, List.find?_filter]
  by_cases h : g = fn
  · subst h
    have hn : st.funcs.find? (fun _ => false) = none := List.find?_eq_none.mpr (by simp)
    simp [hn]
  · have : (fun a : Str × List SStmt => decide (decide (a.1 ≠ g) = true ∧ decide (a.1 = fn) = true)) = fun a => decide (a.1 = fn) := by
      funext a
      by_cases h1 : a.1 = fn
      · simp only [h1, decide_true, and_true, decide_eq_true_eq, ne_eq]
        exact fun e => h e.symm
      · simp [h1]
    rw [this]
    cases st.funcs.find? (·.1 = fn) <;> simp [h]

/-- the body, if the statement is a definition of `fn` -/
def defBody (fn : Str) : SStmt → Option (List SStmt)
  | .defn g b => if g = fn then some b else none
  | .stage _ _ => none
  | .call _ => none
  | .source _ => none
  | .exit _ => none
  | .sete => none

/-- the last definition of `fn` among the statements of a file -/
def lastDef (fn : Str) : List SStmt → Option (List SStmt)
  | [] => none
  | s :: rest => (lastDef fn rest).or (defBody fn s)

theorem lastDef_cons (fn : Str) (s : SStmt) (rest : List SStmt) : lastDef fn (s :: rest) = (lastDef fn rest).or (defBody fn s) := rfl

theorem bodyOf_hoist (fn : Str) : ∀ (stmts : List SStmt) (st : St),
    bodyOf { st with funcs := hoist st.funcs stmts } fn = (lastDef fn stmts).or (bodyOf st fn) := by
  intro stmts
  induction stmts with
  | nil => intro st; rfl
  | cons s l ih =>
    intro st
    rw [hoist_cons, lastDef_cons]
    cases s with
    | defn g b =>
      have := ih { st with funcs := setFunc st.funcs g b }
      rw [bodyOf_setFunc] at this
      rw [this]
      cases lastDef fn l <;> by_cases hg : g = fn <;> simp [defBody, hg]
    | _ => 
      rw [ih st]
      cases lastDef fn l <;> rfl

theorem lastDef_spec (fn : Str) : ∀ (stmts : List SStmt),
    match lastDef fn stmts with
    | some b => SStmt.defn fn b ∈ stmts
    | none => ∀ b, SStmt.defn fn b ∉ stmts := by
  intro stmts
  induction stmts with
  | nil => intro b h; cases h
  | cons s l ih =>
    rw [lastDef_cons]
    cases hl : lastDef fn l with
    | some b => rw [hl] at ih; exact List.mem_cons_of_mem _ ih
    | none =>
      rw [hl] at ih
      cases s with
      | defn g b1 =>
        by_cases hg : g = fn
        · subst hg; simp [defBody]
        · simp only [Option.none_or, defBody, hg, ↓reduceIte]
          intro b h
          rcases List.mem_cons.mp h with e | e
          · cases e; exact hg rfl
          · exact ih b e
      | _ =>
        intro b h
        rcases List.mem_cons.mp h with e | e
        · cases e
        · exact ih b e

theorem lastDef_mem {fn : Str} {stmts : List SStmt} {b : List SStmt} (h : lastDef fn stmts = some b) : SStmt.defn fn b ∈ stmts := by
  have := lastDef_spec fn stmts
  rwa [h] at this

theorem lastDef_none {fn : Str} {stmts : List SStmt} (h : lastDef fn stmts = none) (b : List SStmt) : SStmt.defn fn b ∉ stmts := by
  have := lastDef_spec fn stmts
  rw [h] at this
  exact this b

theorem runStmts_exited (cfg : Cfg) (files : List (Str × List SStmt)) (F : Nat) (l : List SStmt) (st : St) (last : Nat)
    (h : st.exited.isSome = true) : runStmts cfg files F l st last = (st, last) := by
  cases F with
  | zero => exact runStmts_zero ..
  | succ f =>
    cases l with
    | nil => exact runStmts_nil ..
    | cons s rest => rw [runStmts_cons, if_pos h]

/-- `xs ≠ []`: the model tests `stopped` only behind a statement it has run -/
theorem runStmts_append (cfg : Cfg) (files : List (Str × List SStmt)) : ∀ (xs : List SStmt), xs ≠ [] → ∀ (F : Nat) (ys : List SStmt) (st : St) (last : Nat),
    runStmts cfg files F (xs ++ ys) st last =
      if stopped (runStmts cfg files F xs st last) then runStmts cfg files F xs st last
      else runStmts cfg files (F - xs.length) ys (runStmts cfg files F xs st last).1 (runStmts cfg files F xs st last).2 := by
  intro xs
  induction xs with
  | nil => intro h; exact absurd rfl h
  | cons x xs ih =>
    intro _ F ys st last
    cases F with
    | zero => simp [runStmts_zero]
    | succ f =>
      rw [List.cons_append, runStmts_cons, runStmts_cons]
      by_cases he : st.exited.isSome = true
      · simp [he, stopped]
      · simp only [he, Bool.false_eq_true, ↓reduceIte]
        by_cases hs : stopped (step cfg files f x st last) = true
        · simp [hs]
        · simp only [hs, Bool.false_eq_true, ↓reduceIte]
          by_cases hx : xs = []
          · subst hx
            simp [runStmts_nil, hs]
          · rw [ih hx]
            simp [Nat.add_sub_add_right]

theorem exit_status (cfg : Cfg) (files : List (Str × List SStmt)) (n : Nat) : ∀ F,
    (∀ l st last, st.exited = none → (runStmts cfg files F l st last).1.exited = some n → (runStmts cfg files F l st last).2 = n) ∧
    (∀ name st, st.exited = none → (runFile cfg files F name st).1.exited = some n → (runFile cfg files F name st).2 = n) := by
  have hno : ∀ (st : St) (x : Nat), st.exited = none → st.exited = some n → x = n := fun st x h0 h => by rw [h0] at h; cases h
  refine run_induction cfg files (fun st r => st.exited = none → r.1.exited = some n → r.2 = n) hno (fun st _ c => hno st c)
    (fun st => hno st 0) (fun _ _ _ h => Option.some.inj h) ?_ (fun _ _ _ h => h) (fun _ _ _ _ h => h)
  -- a step that did not stop the run left the shell running
  intro st r r' _ hs h2 _ hx
  refine h2 ?_ hx
  simp only [stopped, Bool.or_eq_false_iff] at hs
  simpa using hs.1

/-- a command that succeeds -/
def okStage : SStmt → Bool
  | .stage _ c => c == 0
  | _ => false

/-- the markers a list of commands logs -/
def markers : List SStmt → List (Nat × Nat)
  | [] => []
  | .stage k c :: rest => (k, c) :: markers rest
  | _ :: rest => markers rest

theorem okStage_iff (s : SStmt) : okStage s = true ↔ ∃ k, s = .stage k 0 := by
  cases s <;> simp [okStage]

theorem runStmts_stage_ok (cfg : Cfg) (files : List (Str × List SStmt)) (f k : Nat) (rest : List SStmt) (st : St) (last : Nat)
    (he : st.exited = none) :
    runStmts cfg files (f + 1) (.stage k 0 :: rest) st last = runStmts cfg files f rest { st with trace := st.trace ++ [(k, 0)] } 0 := by
  rw [runStmts_cons]
  simp [step, stopped, he]

theorem run_okStages (cfg : Cfg) (files : List (Str × List SStmt)) : ∀ (pre : List SStmt), pre.all okStage = true →
    ∀ (G : Nat) (rest : List SStmt) (st : St), st.exited = none →
    runStmts cfg files (pre.length + G) (pre ++ rest) st 0 = runStmts cfg files G rest { st with trace := st.trace ++ markers pre } 0 := by
  intro pre
  induction pre with
  | nil => intro _ G rest st _; simp [markers]
  | cons s pre ih =>
    intro hall G rest st h0
    simp only [List.all_cons, Bool.and_eq_true] at hall
    obtain ⟨k, rfl⟩ := (okStage_iff s).mp hall.1
    rw [List.length_cons, Nat.add_right_comm, List.cons_append, runStmts_stage_ok _ _ _ _ _ _ _ h0,
      ih hall.2 G rest { st with trace := st.trace ++ [(k, 0)] } h0]
    simp [markers, List.append_assoc]

theorem runStmts_single (cfg : Cfg) (files : List (Str × List SStmt)) (G : Nat) (s : SStmt) (st : St) (last : Nat) (h0 : st.exited = none) :
    runStmts cfg files (G + 1) [s] st last = step cfg files G s st last := by
  rw [runStmts_cons]
  simp [h0, runStmts_nil]

end Cicada.C15.Sess
